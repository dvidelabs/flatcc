import FlatccModel.Generated.Consts
/-!
# Default emitter (`src/runtime/emitter.c`): page ring as a content model

The ring of fixed-size pages is modelled by what each page *holds*: `fpages` are the pages in front
of the page the stream started on (outermost first; all but the first are full), `mf ++ mb` is the
content of the start page (front part grows down from the middle, back part grows up), `bpages`
the pages behind it (all but the last are full).  Chunking (`k = min(size, left)`), the fast path,
page allocation / reuse of spare ring pages and `reset` follow the C code; byte positions inside a
page are not represented (only the C copy-out can observe them, and that is what the theorems are about).
-/
namespace Flatcc.Emitter

structure Em where
  page : Nat                      -- FLATCC_EMITTER_PAGE_SIZE
  started : Bool                  -- E->front != 0
  fpages : List (List Nat)
  mf : List Nat
  mb : List Nat
  bpages : List (List Nat)
  used : Nat
  spare : Nat                     -- allocated ring pages currently holding nothing
  capacity : Nat
  usedAverage : Nat
  deriving Repr

def Em.init (page : Nat) : Em :=
  { page := page, started := false, fpages := [], mf := [], mb := [], bpages := [], used := 0, spare := 0, capacity := 0, usedAverage := 0 }

/-- the stream the emitter holds, in address order -/
def Em.content (s : Em) : List Nat := s.fpages.flatten ++ s.mf ++ s.mb ++ s.bpages.flatten

/-- `E->front_left` -/
def Em.frontLeft (s : Em) : Nat :=
  if !s.started then 0 else
  match s.fpages with
  | [] => s.page / 2 - s.mf.length
  | p :: _ => s.page - p.length

/-- `E->back_left` -/
def Em.backLeft (s : Em) : Nat :=
  if !s.started then 0 else
  match s.bpages.getLast? with
  | none => (s.page - s.page / 2) - s.mb.length
  | some p => s.page - p.length

/-- take a page for the front (or the very first page): reuse a spare ring page or allocate -/
def advanceFront (s : Em) : Em :=
  if !s.started then { s with started := true, capacity := s.capacity + s.page }
  else if s.spare > 0 then { s with fpages := [] :: s.fpages, spare := s.spare - 1 }
  else { s with fpages := [] :: s.fpages, capacity := s.capacity + s.page }

def advanceBack (s : Em) : Em :=
  if !s.started then { s with started := true, capacity := s.capacity + s.page }
  else if s.spare > 0 then { s with bpages := s.bpages ++ [[]], spare := s.spare - 1 }
  else { s with bpages := s.bpages ++ [[]], capacity := s.capacity + s.page }

/-- prepend `d` to the outermost front page (caller guarantees it fits) -/
def pushFront (s : Em) (d : List Nat) : Em :=
  match s.fpages with
  | [] => { s with mf := d ++ s.mf }
  | p :: r => { s with fpages := (d ++ p) :: r }

def pushBack (s : Em) (d : List Nat) : Em :=
  match s.bpages.getLast? with
  | none => { s with mb := s.mb ++ d }
  | some p => { s with bpages := s.bpages.dropLast ++ [p ++ d] }

/-- `copy_front(E, data, size)`: chunks are taken from the END of `data` -/
def copyFront : Nat → Em → List Nat → Em
  | 0, s, _ => s
  | fuel+1, s, d =>
    if d.isEmpty then s
    else if s.frontLeft = 0 then copyFront fuel (advanceFront s) d
    else
      let k := min d.length s.frontLeft
      copyFront fuel (pushFront s (d.drop (d.length - k))) (d.take (d.length - k))

/-- `copy_back(E, data, size)` -/
def copyBack : Nat → Em → List Nat → Em
  | 0, s, _ => s
  | fuel+1, s, d =>
    if d.isEmpty then s
    else if s.backLeft = 0 then copyBack fuel (advanceBack s) d
    else
      let k := min d.length s.backLeft
      copyBack fuel (pushBack s (d.take k)) (d.drop k)

def fuelFor (_s : Em) (n : Nat) : Nat := 2 * n + 2

/-- `flatcc_emitter(E, iov, iov_count, offset, len)` with `offset < 0`: the pieces in address order -/
def emitFront (s : Em) (iov : List (List Nat)) : Em :=
  let len := (iov.map List.length).sum
  let s := { s with used := s.used + len }
  if len ≤ s.frontLeft then pushFront s iov.flatten
  else iov.reverse.foldl (fun s piece => copyFront (fuelFor s piece.length) s piece) s

/-- … with `offset ≥ 0` -/
def emitBack (s : Em) (iov : List (List Nat)) : Em :=
  let len := (iov.map List.length).sum
  let s := { s with used := s.used + len }
  if len ≤ s.backLeft then pushBack s iov.flatten
  else iov.foldl (fun s piece => copyBack (fuelFor s piece.length) s piece) s

/-- `flatcc_emitter_get_direct_buffer`: available iff front and back are the same page -/
def directBuffer (s : Em) : Option (List Nat) :=
  if s.started && s.fpages.isEmpty && s.bpages.isEmpty then some (s.mf ++ s.mb) else none

/-- `flatcc_emitter_copy_buffer(E, buf, size)`: `none` = returns NULL -/
def copyBuffer (s : Em) (size : Nat) : Option (List Nat) :=
  if size < s.used then none else if !s.started then none else some s.content

/-- the loop of `flatcc_emitter_reset` that frees spare pages while the capacity exceeds twice the average -/
def freeLoop (page : Nat) (avg : Nat) : Nat → Nat → Nat → Nat × Nat
  | 0, spare, cap => (spare, cap)
  | fuel+1, spare, cap => if avg * 2 < cap ∧ spare > 0 then freeLoop page avg fuel (spare - 1) (cap - page) else (spare, cap)

/-- `flatcc_emitter_reset`: keeps pages according to the adaptive average -/
def reset (s : Em) : Em :=
  if !s.started then s else
  let total := s.spare + s.fpages.length + s.bpages.length
  let avg0 := if s.usedAverage = 0 then s.used else s.usedAverage
  let avg := avg0 * 3 / 4 + s.used / 4
  let (spare, cap) := freeLoop s.page avg total total s.capacity
  { s with fpages := [], mf := [], mb := [], bpages := [], used := 0, spare := spare, capacity := cap, usedAverage := avg }

end Flatcc.Emitter
