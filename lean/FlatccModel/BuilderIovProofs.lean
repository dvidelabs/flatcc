import FlatccModel.BuilderIov
import FlatccModel.BuilderEmit
/-! # The pushed pieces of a call: what `nz` keeps, and the shapes of piece lists that meet `IovOK` -/
namespace Flatcc.Builder

theorem nz_flatten (ps : List (List Nat)) : (nz ps).flatten = ps.flatten := by
  induction ps with
  | nil => rfl
  | cons p ps ih =>
    unfold nz at *
    cases p with
    | nil => simpa using ih
    | cons x xs => simp [ih]

theorem nz_nonempty (ps : List (List Nat)) : ∀ p ∈ nz ps, p ≠ [] := by
  intro p hp
  unfold nz at hp
  have := (List.mem_filter.mp hp).2
  intro h; subst h; simp at this

theorem nz_length_le (ps : List (List Nat)) : (nz ps).length ≤ ps.length := by
  unfold nz; exact List.length_filter_le _ _

theorem iovOK_of (ps : List (List Nat)) (bytes : List Nat) (hb : ps.flatten = bytes) (h1 : ∃ p ∈ ps, p ≠ [])
    (hl : ps.length ≤ Flatcc.Consts.iovCountMax) : IovOK (nz ps) bytes := by
  refine ⟨by rw [nz_flatten, hb], nz_nonempty ps, ?_, Nat.le_trans (nz_length_le ps) hl⟩
  obtain ⟨p, hp, hne⟩ := h1
  have : p ∈ nz ps := by
    unfold nz; rw [List.mem_filter]; refine ⟨hp, ?_⟩
    cases p with
    | nil => exact absurd rfl hne
    | cons _ _ => rfl
  exact List.length_pos_of_mem this

theorem iovOK_one (a : List Nat) (h : a ≠ []) : IovOK (nz [a]) a :=
  iovOK_of [a] a (by simp) ⟨a, List.mem_cons_self, h⟩ (by simp [Flatcc.Consts.iovCountMax])

theorem iovOK_two (a b : List Nat) (h : a ≠ []) : IovOK (nz [a, b]) (a ++ b) :=
  iovOK_of [a, b] (a ++ b) (by simp) ⟨a, List.mem_cons_self, h⟩ (by simp [Flatcc.Consts.iovCountMax])

theorem iovOK_le32 (x : Nat) (a b : List Nat) : IovOK (nz [le32 x, a, b]) (le32 x ++ a ++ b) :=
  iovOK_of [le32 x, a, b] (le32 x ++ a ++ b) (by simp) ⟨le32 x, List.mem_cons_self, List.cons_ne_nil _ _⟩ (by simp [Flatcc.Consts.iovCountMax])

theorem IovOK.front_eq {pieces : List (List Nat)} {bytes : List Nat} (h : IovOK pieces bytes) (s' s : BS)
    (hs : s'.front = s.front) : (emitFront s' bytes).1.front = pieces.flatten ++ s.front := by
  rw [emitFront_front, hs, h.1]

end Flatcc.Builder
