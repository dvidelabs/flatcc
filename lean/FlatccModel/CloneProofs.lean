import FlatccModel.Clone
/-! A successful clone is read as a derivation `Run` (`clone_run`); content, sharing and the no-map case are one induction
on the derivation each. Termination unfolds `clone` itself. -/
namespace Flatcc.Clone

theorem Ext.refl (st : St) : Ext st st := ⟨⟨[], by simp⟩, fun _ h => h⟩

theorem Ext.trans {a b c : St} (h1 : Ext a b) (h2 : Ext b c) : Ext a c := by
  obtain ⟨⟨x, hx⟩, l1⟩ := h1
  obtain ⟨⟨y, hy⟩, l2⟩ := h2
  exact ⟨⟨x ++ y, by rw [hy, hx, List.append_assoc]⟩, fun e he => l2 e (l1 e he)⟩

theorem lookup_mem (m : List (Nat × Nat)) (a r : Nat) (h : lookup m a = some r) : (a, r) ∈ m := by
  obtain ⟨⟨a', r'⟩, hf, rfl⟩ := Option.map_eq_some_iff.mp h
  have ha : a' = a := by simpa using List.find?_some hf
  exact ha ▸ List.mem_of_find?_eq_some hf

theorem lookup_none (m : List (Nat × Nat)) (a : Nat) (h : lookup m a = none) : a ∉ m.map Prod.fst := by
  intro hm
  obtain ⟨e, he, rfl⟩ := List.mem_map.mp hm
  exact List.find?_eq_none.mp (Option.map_eq_none_iff.mp h) e he (beq_self_eq_true _)

theorem All2.mono {R S : Nat → Nat → Prop} (h : ∀ a r, R a r → S a r) :
    ∀ {l1 l2 : List Nat}, All2 R l1 l2 → All2 S l1 l2 := by
  intro l1 l2 hf
  induction hf with
  | nil => exact .nil
  | cons hab _ ih => exact .cons (h _ _ hab) ih

/-- the state after `clone` has created the copy `d` of the object at `a` in state `st` -/
def created (useMap : Bool) (a : Nat) (d : DObj) (st : St) : St :=
  { dst := st.dst ++ [d], memo := if useMap then (a, st.dst.length) :: st.memo else st.memo,
    log := (a, st.dst.length) :: st.log }

/-- `Run useMap src ks st rs st'`: the calls of a successful clone of the addresses `ks` in order, from state `st`, with
the references `rs` they return and the state `st'` after the last. A call is a hit in the map, or creates its object
after its referents; `cons` puts a call before the rest. No fuel: `clone_run` embeds every successful `clone`. -/
inductive Run (useMap : Bool) (src : Src) : List Nat → St → List Nat → St → Prop
  | nil {st : St} : Run useMap src [] st [] st
  | hit {a r : Nat} {st : St} : (if useMap then lookup st.memo a else none) = some r → Run useMap src [a] st [r] st
  | create {a : Nat} {o : SObj} {rs : List Nat} {st st1 : St} :
      (if useMap then lookup st.memo a else none) = none → src a = some o → Run useMap src o.kids st rs st1 →
      Run useMap src [a] st [st1.dst.length] (created useMap a ⟨o.payload, rs⟩ st1)
  | cons {k r : Nat} {ks rs : List Nat} {st st1 st' : St} :
      Run useMap src [k] st [r] st1 → Run useMap src ks st1 rs st' → Run useMap src (k :: ks) st (r :: rs) st'

theorem cloneKids_run {useMap : Bool} {src : Src} {rec : Nat → St → Option (Nat × St)}
    (hrec : ∀ k st r st', rec k st = some (r, st') → Run useMap src [k] st [r] st') :
    ∀ ks st rs st', cloneKids rec ks st = some (rs, st') → Run useMap src ks st rs st' := by
  intro ks
  induction ks with
  | nil => intro st rs st' h; cases h; exact .nil
  | cons k ks ih =>
    intro st rs st' h
    rw [cloneKids] at h
    split at h
    · cases h
    · next r st1 h1 =>
      split at h
      · cases h
      · next rs' st2 h2 => cases h; exact .cons (hrec _ _ _ _ h1) (ih _ _ _ h2)

theorem clone_run {useMap : Bool} {src : Src} :
    ∀ f a st r st', clone useMap src f a st = some (r, st') → Run useMap src [a] st [r] st' := by
  intro f
  induction f with
  | zero => intro a st r st' h; cases h
  | succ f ih =>
    intro a st r st' h
    rw [clone] at h
    split at h
    · next r0 hl => cases h; exact .hit hl
    · next hl =>
      split at h
      · cases h
      · next o hs =>
        split at h
        · cases h
        · next rs st1 hk => cases h; exact .create hl hs (cloneKids_run ih _ _ _ _ hk)

theorem inv_create {src : Src} {st1 : St} {a : Nat} {o : SObj} {rs : List Nat} (useMap : Bool)
    (hi : Inv src st1) (hs : src a = some o) (hk : All2 (fun k r => (k, r) ∈ st1.log) o.kids rs) :
    Inv src (created useMap a ⟨o.payload, rs⟩ st1) := by
  unfold created
  have up : ∀ {l1 l2 : List Nat}, All2 (fun k r => (k, r) ∈ st1.log) l1 l2 →
      All2 (fun k r => (k, r) ∈ (a, st1.dst.length) :: st1.log) l1 l2 :=
    All2.mono (fun _ _ h => List.mem_cons_of_mem _ h)
  constructor
  · intro a' r' hm
    rcases List.mem_cons.mp hm with he | hm
    · cases he
      exact ⟨o, _, hs, List.getElem?_concat_length, rfl, up hk⟩
    · obtain ⟨o', d', s1, s2, s3, s4⟩ := hi.1 a' r' hm
      refine ⟨o', d', s1, ?_, s3, up s4⟩
      rw [List.getElem?_append_left (List.getElem?_eq_some_iff.mp s2).1]; exact s2
  · intro e he
    cases useMap with
    | false => exact List.mem_cons_of_mem _ (hi.2 e he)
    | true =>
      rcases List.mem_cons.mp he with he | he
      · exact he ▸ List.mem_cons_self
      · exact List.mem_cons_of_mem _ (hi.2 e he)

theorem run_spec {useMap : Bool} {src : Src} {ks rs : List Nat} {st st' : St} (h : Run useMap src ks st rs st') :
    Inv src st → Inv src st' ∧ Ext st st' ∧ All2 (fun a r => (a, r) ∈ st'.log) ks rs := by
  induction h with
  | nil => exact fun hi => ⟨hi, Ext.refl _, .nil⟩
  | hit hl =>
    intro hi
    cases useMap with
    | false => cases hl
    | true => exact ⟨hi, Ext.refl _, .cons (hi.2 _ (lookup_mem _ _ _ hl)) .nil⟩
  | create _ hs _ ih =>
    intro hi
    obtain ⟨i1, x1, f1⟩ := ih hi
    exact ⟨inv_create useMap i1 hs f1, x1.trans ⟨⟨[_], rfl⟩, fun _ he => List.mem_cons_of_mem _ he⟩,
      .cons List.mem_cons_self .nil⟩
  | cons _ _ ih1 ih2 =>
    intro hi
    obtain ⟨i1, x1, _ | ⟨m1, _⟩⟩ := ih1 hi
    obtain ⟨i2, x2, f2⟩ := ih2 i1
    exact ⟨i2, x1.trans x2, .cons (x2.2 _ m1) f2⟩

theorem clone_spec (useMap : Bool) (src : Src) :
    ∀ f a st r st', Inv src st → clone useMap src f a st = some (r, st') →
      Inv src st' ∧ Ext st st' ∧ (a, r) ∈ st'.log := by
  intro f a st r st' hi h
  obtain ⟨i, x, _ | ⟨m, _⟩⟩ := run_spec (clone_run f a st r st' h) hi
  exact ⟨i, x, m⟩

theorem inv_init (src : Src) : Inv src init := ⟨fun a r h => by simp [init] at h, fun e h => by simp [init] at h⟩

theorem invS_create {st1 : St} (a : Nat) (d : DObj) (hi : InvS st1) (ha : a ∉ st1.log.map Prod.fst) :
    InvS (created true a d st1) := by
  unfold created
  obtain ⟨m1, d1, l1⟩ := hi
  exact ⟨by rw [m1]; rfl, List.nodup_cons.mpr ⟨ha, d1⟩, by simp [l1]⟩

/-- `lo`: everything a run adds to the log is `≥ lo`, a bound below its arguments; so the referents of `a`, all above `a`,
cannot log `a` itself -/
theorem run_share {src : Src} (hf : Fwd src) {ks rs : List Nat} {st st' : St} (h : Run true src ks st rs st') :
    InvS st → ∀ lo, (∀ k ∈ ks, lo ≤ k) → InvS st' ∧ ∀ x ∈ st'.log.map Prod.fst, x ∈ st.log.map Prod.fst ∨ lo ≤ x := by
  induction h with
  | nil => exact fun hi _ _ => ⟨hi, fun _ => Or.inl⟩
  | hit _ => exact fun hi _ _ => ⟨hi, fun _ => Or.inl⟩
  | @create a o _ st st1 hl hs _ ih =>
    intro hi lo hlo
    have ha : lo ≤ a := hlo a List.mem_cons_self
    obtain ⟨i1, n1⟩ := ih hi (a + 1) (hf a o hs)
    -- `a` was not in the map before, and the referents only add addresses above `a`
    have hnot : a ∉ st1.log.map Prod.fst := fun hm =>
      (n1 a hm).elim (fun h3 => lookup_none _ _ hl (hi.1 ▸ h3)) (Nat.lt_irrefl a)
    refine ⟨invS_create a _ i1 hnot, fun x hx => ?_⟩
    rcases List.mem_cons.mp hx with hx | hx
    · exact Or.inr (hx ▸ ha)
    · exact (n1 x hx).imp_right fun h3 => Nat.le_trans ha (Nat.le_of_lt h3)
  | cons _ _ ih1 ih2 =>
    intro hi lo hlo
    obtain ⟨hk, hks⟩ := List.forall_mem_cons.mp hlo
    obtain ⟨i1, n1⟩ := ih1 hi lo (List.forall_mem_singleton.mpr hk)
    obtain ⟨i2, n2⟩ := ih2 i1 lo hks
    exact ⟨i2, fun x hx => (n2 x hx).elim (n1 x) Or.inr⟩

theorem clone_share (src : Src) (hf : Fwd src) :
    ∀ f a st r st', InvS st → clone true src f a st = some (r, st') →
      InvS st' ∧ ∀ x ∈ st'.log.map Prod.fst, x ∈ st.log.map Prod.fst ∨ a ≤ x := by
  intro f a st r st' hi h
  exact run_share hf (clone_run f a st r st' h) hi a (List.forall_mem_singleton.mpr (Nat.le_refl a))

theorem invS_init : InvS init := by simp [InvS, init]

theorem run_nomap_memo {src : Src} {ks rs : List Nat} {st st' : St} (h : Run false src ks st rs st') :
    st'.memo = st.memo := by
  induction h with
  | nil => rfl
  | hit _ => rfl
  | create _ _ _ ih => exact ih
  | cons _ _ ih1 ih2 => exact ih2.trans ih1

theorem clone_nomap_memo (src : Src) :
    ∀ f a st r st', clone false src f a st = some (r, st') → st'.memo = st.memo :=
  fun f a st r st' h => run_nomap_memo (clone_run f a st r st' h)

theorem cloneKids_total (rec : Nat → St → Option (Nat × St)) :
    ∀ ks, (∀ k ∈ ks, ∀ st, ∃ r st', rec k st = some (r, st')) → ∀ st, ∃ rs st', cloneKids rec ks st = some (rs, st') := by
  intro ks
  induction ks with
  | nil => intro _ st; exact ⟨[], st, rfl⟩
  | cons k ks ih =>
    intro h st
    obtain ⟨r, s1, h1⟩ := h k List.mem_cons_self st
    obtain ⟨rs, s2, h2⟩ := ih (fun k' hk' => h k' (List.mem_cons_of_mem _ hk')) s1
    exact ⟨r :: rs, s2, by simp only [cloneKids, h1, h2]⟩

theorem clone_total (useMap : Bool) (src : Src) (bound : Nat) (hf : Fwd src) (hc : Closed src bound) :
    ∀ f a st, a < bound → (src a).isSome → bound ≤ a + f → ∃ r st', clone useMap src f a st = some (r, st') := by
  intro f
  induction f with
  | zero => intro a st h1 _ h3; exact absurd h1 (Nat.not_lt.mpr h3)
  | succ f ih =>
    intro a st h1 h2 h3
    cases hl : (if useMap then lookup st.memo a else none) with
    | some r0 => exact ⟨r0, st, by simp only [clone, hl]⟩
    | none =>
      obtain ⟨o, hs⟩ := Option.isSome_iff_exists.mp h2
      obtain ⟨rs, s1, hk⟩ := cloneKids_total (clone useMap src f) o.kids
        (fun k hk st => ih k st (hc a o hs k hk).2 (hc a o hs k hk).1
          -- bound ≤ a + f + 1 ≤ k + f
          (Nat.le_trans h3 (Nat.add_lt_add_right (hf a o hs k hk) f))) st
      exact ⟨_, _, by simp only [clone, hl, hs, hk]; rfl⟩

end Flatcc.Clone
