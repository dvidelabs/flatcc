import FlatccModel.Builder
/-!
# The pieces (`iov` entries) of every emit call the builder makes, and the images they are cut from

`push_iov` skips pieces of length 0, so the pieces of a call are the non-empty ones among the parts the byte image is made of.
-/
-- in this namespace because the statements of `C03_offset_vector` and `C12_iov_offset_vector` name the two so
namespace Flatcc.Props.C03
open Flatcc.Builder

/-- the element slots of an offset vector -/
def ovElems (base : Int) (refs : List Int) : List (List Nat) :=
  refs.zipIdx.map (fun (r, i) => if r = 0 then le32 0 else le32 (u32 (r - base - (4 * i : Nat) - 4)))

/-- address of the offset vector `createOffsetVector` returns -/
def ovBase (s : BS) (refs : List Int) : Int :=
  s.emitStart - (4 + 4 * refs.length + frontPad s (4 * refs.length) 4 : Nat)

end Flatcc.Props.C03

namespace Flatcc.Builder

/-- the address `create_table` returns -/
def tableBase (s : BS) (t : TableLayout) : Int :=
  s.emitStart - (frontPad s t.data.length (max t.align 4) + t.data.length + 4 : Nat)

/-- the bytes `create_table` emits (vtable offset field, patched data, padding), in address order -/
def tableImage (s : BS) (t : TableLayout) (vtRef : Int) : List Nat :=
  le32 (u32 (tableBase s t - (vtRef - 1))) ++ patchAll (tableBase s t) t.data t.offsets ++
    zeros (frontPad s t.data.length (max t.align 4))

/-- `push_iov`: zero-length pieces are not recorded -/
def nz (ps : List (List Nat)) : List (List Nat) := ps.filter (fun p => !p.isEmpty)

/-- what is demanded of the pieces of one emit call -/
def IovOK (pieces : List (List Nat)) (bytes : List Nat) : Prop :=
  pieces.flatten = bytes ∧ (∀ p ∈ pieces, p ≠ []) ∧ 1 ≤ pieces.length ∧ pieces.length ≤ Flatcc.Consts.iovCountMax

def stringIov (s : BS) (d : List Nat) : List (List Nat) := nz [le32 d.length, d, zeros (frontPad s (d.length + 1) 4 + 1)]

def vectorIov (s : BS) (d : List Nat) (count align : Nat) : List (List Nat) :=
  nz [le32 count, d, zeros (frontPad s d.length (max align 4))]

def structIov (s : BS) (d : List Nat) (align : Nat) : List (List Nat) := nz [d, zeros (frontPad s d.length align)]

def vtableIov (s : BS) (vt : List Nat) : List (List Nat) :=
  if s.nestId = 0 ∧ s.clustering then nz [vt] else nz [vt, zeros (frontPad s vt.length 2)]

def tableIov (s : BS) (t : TableLayout) (vtRef : Int) : List (List Nat) :=
  nz [le32 (u32 (tableBase s t - (vtRef - 1))), patchAll (tableBase s t) t.data t.offsets, zeros (frontPad s t.data.length (max t.align 4))]

/-- `_create_offset_vector_direct` -/
def offsetVectorIov (s : BS) (refs : List Int) : List (List Nat) :=
  nz [le32 refs.length, (Flatcc.Props.C03.ovElems (Flatcc.Props.C03.ovBase s refs) refs).flatten, zeros (frontPad s (4 * refs.length) 4)]

/-- `flatcc_builder_create_buffer`: [size field] root offset [identifier] [padding] -/
def bufHeaderIov (s : BS) (ident : List Nat) (rootRef : Int) (align : Nat) (nested : Bool) : List (List Nat) :=
  let idOut := if ident.length = 4 ∧ ident ≠ [0, 0, 0, 0] then ident else []
  let sized := nested || s.withSize
  let headerPad := frontPad s (4 + idOut.length + (if s.withSize then 4 else 0)) align
  let len := (if sized then 4 else 0) + 4 + idOut.length + headerPad
  let bufferBase : Int := s.emitStart - (len : Nat) + (if sized then 4 else 0)
  let bufferSize := if nested then u32 (s.bufferMark - bufferBase) else u32 (s.emitEnd - bufferBase)
  nz [(if sized then le32 bufferSize else []), le32 (u32 (rootRef - bufferBase)), idOut, zeros headerPad]

/-- `flatcc_builder_embed_buffer` inside an open buffer frame -/
def embedIov (s : BS) (data : List Nat) (pad : Nat) : List (List Nat) := nz [le32 (data.length + pad), data, zeros pad]

end Flatcc.Builder
