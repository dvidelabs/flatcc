import FlatccModel.Generated.Consts
/-!
# `analyze_struct` (src/compiler/semantics.c): depth-first analysis of the struct reference graph with
open / closed marks and a nesting limit

Structs are numbered in declaration order. `members g i` lists, in member order, `some j` for a member whose type is
struct `j` and `none` for scalar / enum members. The model keeps what decides acceptance: the open set, the closing
order, the first diagnostic.
-/
namespace Flatcc.StructGraph

inductive Diag | circular | deep | empty
  deriving DecidableEq, Repr

structure St where
  opened : List Nat := []
  order : List Nat := []          -- closed structs, in closing order (`P->schema.ordered_structs`, oldest first)
  diags : List Diag := []
  deriving Repr

abbrev Graph := List (List (Option Nat))

def members (g : Graph) (i : Nat) : List (Option Nat) := g.getD i []

/-- the member loop of `analyze_struct`; `recur level j st` is the recursive `analyze_struct` call -/
def goMembers (recur : Nat → Nat → St → St × Bool) (level : Nat) : List (Option Nat) → St → St × Bool
  | [], st => (st, true)
  | m :: ms, st =>
    if level ≥ Flatcc.Consts.nestingMax then ({ st with diags := st.diags ++ [.deep] }, false)
    else
      match m with
      | none => goMembers recur level ms st
      | some j =>
        if j ∈ st.opened then ({ st with diags := st.diags ++ [.circular] }, false)
        else if j ∈ st.order then goMembers recur level ms st
        else
          match recur (level + 1) j st with
          | (st, false) => (st, false)
          | (st, true) => goMembers recur level ms st

/-- `analyze_struct(P, ct)` at nesting level `level`; `false` = returned -1. `fuel` bounds the recursion depth (the
nesting limit bounds it in the C code: see `ainv` in StructGraphProofs). -/
def analyze (g : Graph) : Nat → Nat → Nat → St → St × Bool
  | 0, _, _, st => (st, false)
  | fuel + 1, level, i, st =>
    if i ∈ st.opened then (st, false)                 -- left open by a failed analysis: already reported
    else if i ∈ st.order then (st, true)
    else
      let st := { st with opened := i :: st.opened }
      match goMembers (analyze g fuel) level (members g i) st with
      | (st, false) => (st, false)
      | (st, true) =>
        if (members g i).isEmpty then ({ st with diags := st.diags ++ [.empty] }, false)
        else ({ st with opened := st.opened.erase i, order := st.order ++ [i] }, true)

/-- the schema-level loop: every struct in declaration order -/
def analyzeAll (g : Graph) : St :=
  (List.range g.length).foldl (fun st i => (analyze g (Flatcc.Consts.nestingMax + 2) 0 i st).1) {}

end Flatcc.StructGraph
