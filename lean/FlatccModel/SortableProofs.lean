import FlatccModel.Sortable
/-! `mark_sortable` computes reachability of a `sorted` vector: a step marks only a reachable type, and it either
changes nothing or raises the count by one; so a pass that repeats the count consisted of steps that change nothing, which
leaves a closed set. -/
namespace Flatcc.Sortable

theorem get_set (m : Marks) (i j : Nat) (b : Bool) :
    get (m.set i b) j = if i = j ∧ i < m.length then b else get m j := by
  unfold get
  rw [List.getElem?_set]
  by_cases h : i = j
  · subst h
    by_cases hl : i < m.length
    · simp [hl]
    · simp [hl]
  · simp [h]

theorem get_of_ge (m : Marks) (i : Nat) (h : m.length ≤ i) : get m i = false := by
  unfold get; rw [List.getElem?_eq_none h]; rfl

theorem get_stepAt (ts : List Ty) (m : Marks) (i j : Nat) :
    get (stepAt ts m i) j = if i = j ∧ i < m.length then cond ts m i else get m j :=
  get_set m i j _

theorem cond_eq_true_iff (ts : List Ty) (m : Marks) (i : Nat) :
    cond ts m i = true ↔
      get m i = true ∨ ∃ t, ts[i]? = some t ∧ (t.direct = true ∨ ∃ r, r ∈ t.refs ∧ get m r = true) := by
  unfold cond
  cases ts[i]? with
  | none => simp
  | some t => simp only [Bool.or_eq_true, List.any_eq_true, Option.some.injEq, exists_eq_left']

theorem stepAt_cases (ts : List Ty) (m : Marks) (i : Nat) :
    stepAt ts m i = m ∨ count (stepAt ts m i) = count m + 1 := by
  unfold stepAt
  rcases Nat.lt_or_ge i m.length with hi | hi
  · cases hm : m[i] with
    | true =>
      -- already marked: `cond` returns the mark
      left
      rw [(cond_eq_true_iff ts m i).2 (.inl (by simp [get, hi, hm])), ← hm, List.set_getElem_self]
    | false =>
      cases hc : cond ts m i with
      | false =>
        left
        rw [← hm, List.set_getElem_self]
      | true =>
        right
        -- `simp` is slow here; `rfl` evaluates the two `if`s that `countP_set` leaves
        rw [count, List.countP_set hi, hm]
        rfl
  · -- no such type: `set` does nothing
    exact .inl (List.set_eq_of_length_le hi)

/-- steps only add marks, so a run of steps that leaves the count alone consists of steps that change nothing -/
theorem foldl_count (ts : List Ty) : ∀ (L : List Nat) (m : Marks),
    (L.foldl (stepAt ts) m).length = m.length ∧ count m ≤ count (L.foldl (stepAt ts) m) ∧
    (count (L.foldl (stepAt ts) m) = count m → L.foldl (stepAt ts) m = m ∧ ∀ i ∈ L, stepAt ts m i = m) := by
  intro L
  induction L with
  | nil => intro m; exact ⟨rfl, Nat.le_refl _, fun _ => ⟨rfl, nofun⟩⟩
  | cons j L ih =>
    intro m
    obtain ⟨hl, hle, hfix⟩ := ih (stepAt ts m j)
    rw [List.foldl_cons]
    rcases stepAt_cases ts m j with e | e
    · rw [e] at hl hle hfix ⊢
      exact ⟨hl, hle, fun hc => ⟨(hfix hc).1, List.forall_mem_cons.2 ⟨e, (hfix hc).2⟩⟩⟩
    · rw [e] at hle
      exact ⟨by rw [hl, stepAt, List.length_set], Nat.le_of_succ_le hle, fun hc => absurd hc (Nat.ne_of_gt hle)⟩

def Sound (ts : List Ty) (m : Marks) : Prop := ∀ i, get m i = true → Reach ts i

theorem stepAt_sound (ts : List Ty) (m : Marks) (i : Nat) (h : Sound ts m) : Sound ts (stepAt ts m i) := by
  intro j hj
  rw [get_stepAt] at hj
  split at hj
  · rename_i hij
    cases hij.1
    rcases (cond_eq_true_iff ts m i).1 hj with hm | ⟨t, ht, hd | ⟨r, hr, hg⟩⟩
    · exact h i hm
    · exact Reach.direct ht hd
    · exact Reach.step ht hr (h r hg)
  · exact h j hj

def Closed (ts : List Ty) (m : Marks) : Prop := ∀ i, i < ts.length → cond ts m i = get m i

theorem closed_of_fix (ts : List Ty) (m : Marks) (hl : m.length = ts.length)
    (h : ∀ i ∈ List.range ts.length, stepAt ts m i = m) : Closed ts m := by
  intro i hi
  have hg := congrArg (fun x => get x i) (h i (List.mem_range.mpr hi))
  rw [get_stepAt] at hg
  simpa [hl, hi] using hg

theorem closed_complete (ts : List Ty) (m : Marks) (h : Closed ts m) : ∀ i, Reach ts i → get m i = true := by
  intro i hr
  induction hr with
  | @direct i t ht hd =>
    rw [← h i (List.getElem?_eq_some_iff.1 ht).1]
    exact (cond_eq_true_iff ts m i).2 (.inr ⟨t, ht, .inl hd⟩)
  | @step i r t ht hr _ ih =>
    rw [← h i (List.getElem?_eq_some_iff.1 ht).1]
    exact (cond_eq_true_iff ts m i).2 (.inr ⟨t, ht, .inr ⟨r, hr, ih⟩⟩)

theorem fuel_step {n c c' f : Nat} (hf : n - c + 2 ≤ f + 1) (hlt : c < c') (hcn : c' ≤ n) : n - c' + 2 ≤ f :=
  Nat.le_of_lt_succ (Nat.lt_of_lt_of_le
    (Nat.add_lt_add_right (Nat.sub_lt_sub_left (Nat.lt_of_lt_of_le hlt hcn) hlt) 2) hf)

/-- A pass that adds no mark repeats the count and ends the loop, at a closed set; at most `#types` marks can be added,
hence the fuel. -/
theorem loop_spec (ts : List Ty) : ∀ (f : Nat) (m : Marks), m.length = ts.length → Sound ts m →
    ts.length - count m + 2 ≤ f →
    ∃ r, loop ts f m (some (count m)) = some r ∧ r.length = ts.length ∧ Sound ts r ∧ Closed ts r := by
  intro f
  induction f with
  | zero => nofun  -- `_ + 2 ≤ 0`
  | succ f ih =>
    intro m hl hs hf
    have hc := foldl_count ts (List.range ts.length) m
    rw [← pass] at hc
    obtain ⟨hl', hle, hfix⟩ := hc
    have hs' : Sound ts (pass ts m) := List.foldlRecOn _ _ hs fun m h i _ => stepAt_sound ts m i h
    simp only [loop]
    split
    · rename_i heq
      obtain ⟨hm, hstep⟩ := hfix (Option.some.inj heq).symm
      rw [hm]
      exact ⟨m, rfl, hl, hs, closed_of_fix ts m hl hstep⟩
    · rename_i hne
      have hcn : count (pass ts m) ≤ ts.length := hl'.trans hl ▸ List.countP_le_length
      have hlt : count m < count (pass ts m) := Nat.lt_of_le_of_ne hle fun e => hne (e ▸ rfl)
      exact ih _ (hl'.trans hl) hs' (fuel_step hf hlt hcn)

theorem replicate_sound (ts : List Ty) (n : Nat) : Sound ts (List.replicate n false) := by
  intro i h
  unfold get at h
  rw [List.getElem?_replicate] at h
  split at h <;> simp at h

theorem markSortable_spec (ts : List Ty) :
    ∃ r, markSortable ts = some r ∧ r.length = ts.length ∧ ∀ i, get r i = true ↔ Reach ts i := by
  obtain ⟨r, h, hl, hs, hc⟩ := loop_spec ts (ts.length + 2) (List.replicate ts.length false) List.length_replicate
    (replicate_sound ts _) (Nat.add_le_add_right (Nat.sub_le ..) 2)
  -- the initial marks are all clear: their count is the `0` the first pass is compared with
  rw [show count (List.replicate ts.length false) = 0 by simp [count, List.countP_replicate]] at h
  exact ⟨r, h, hl, fun i => ⟨hs i, closed_complete ts r hc i⟩⟩

theorem markSortable_terminates (ts : List Ty) : (markSortable ts).isSome = true := by
  obtain ⟨r, h, _⟩ := markSortable_spec ts
  rw [h]; rfl

theorem markSortable_iff_reach (ts : List Ty) (r : Marks) (h : markSortable ts = some r) :
    r.length = ts.length ∧ ∀ i, get r i = true ↔ Reach ts i := by
  obtain ⟨r', h', hr⟩ := markSortable_spec ts
  cases h.symm.trans h'
  exact hr

/-- a renumbering `p` of the types carries reachability over; applied to `p` and to its inverse it gives independence of the
declaration order -/
theorem reach_renumber (ts ts' : List Ty) (p : Nat → Nat)
    (hmap : ∀ i t, ts[i]? = some t → ts'[p i]? = some { direct := t.direct, refs := t.refs.map p }) :
    ∀ i, Reach ts i → Reach ts' (p i) := by
  intro i h
  induction h with
  | direct ht hd => exact Reach.direct (hmap _ _ ht) hd
  | step ht hr _ ih => exact Reach.step (hmap _ _ ht) (List.mem_map.mpr ⟨_, hr, rfl⟩) ih

theorem reach_of_path {ts : List Ty} {i j : Nat} {t : Ty} (hp : Path ts i j) (hj : ts[j]? = some t) (hd : t.direct = true) :
    Reach ts i := by
  induction hp with
  | refl i => exact Reach.direct hj hd
  | step ht hr _ ih => exact Reach.step ht hr (ih hj)

theorem path_of_reach {ts : List Ty} {i : Nat} (h : Reach ts i) :
    ∃ j t, Path ts i j ∧ ts[j]? = some t ∧ t.direct = true := by
  induction h with
  | @direct i t ht hd => exact ⟨i, t, Path.refl i, ht, hd⟩
  | step ht hr _ ih =>
    obtain ⟨j, t', hp, hj, hd⟩ := ih
    exact ⟨j, t', Path.step ht hr hp, hj, hd⟩

end Flatcc.Sortable
