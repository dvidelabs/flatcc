import FlatccModel.Find
/-! The generated binary search returns the lowest match on a vector sorted by the key. -/
namespace Flatcc.Sort

/-- The loop stops at a sign change of `cmp`, whether or not `cmp` is monotone. -/
theorem findLoop_boundary (cmp : Nat → Int) : ∀ fuel a b, a ≤ b → b - a ≤ fuel →
    ∃ r, findLoop cmp fuel a b = (r, r) ∧ a ≤ r ∧ r ≤ b ∧ (r = a ∨ cmp (r - 1) < 0) ∧ (r = b ∨ 0 ≤ cmp r) := by
  intro fuel
  induction fuel with
  | zero =>
    intro a b hab hf
    obtain rfl : a = b := Nat.le_antisymm hab (Nat.sub_le_iff_le_add'.1 hf)
    exact ⟨a, rfl, Nat.le_refl _, Nat.le_refl _, .inl rfl, .inl rfl⟩
  | succ fuel ih =>
    intro a b hab hf
    unfold findLoop
    by_cases hlt : a < b
    · rw [if_pos hlt]
      -- the fuel is the length of the range, so of the midpoint only `a ≤ m < b` matters
      have hm : a ≤ a + (b - a) / 2 ∧ a + (b - a) / 2 < b :=
        ⟨Nat.le_add_right a _, Nat.add_lt_of_lt_sub' (Nat.div_lt_self (Nat.sub_pos_of_lt hlt) (by decide))⟩
      generalize a + (b - a) / 2 = m at hm ⊢
      -- either half is shorter than `[a, b]` by at least one
      have hfu : b - (m + 1) ≤ fuel :=
        Nat.le_trans (Nat.pred_le_pred (Nat.sub_le_sub_left hm.1 b)) (Nat.pred_le_pred hf)
      have hfl : m - a ≤ fuel := Nat.le_of_lt_succ (Nat.lt_of_lt_of_le (Nat.sub_lt_sub_right hm.1 hm.2) hf)
      simp only []
      split
      · rename_i hneg
        obtain ⟨r, hr, h1, h2, h3, h4⟩ := ih (m + 1) b hm.2 hfu
        refine ⟨r, hr, Nat.le_trans (Nat.le_succ_of_le hm.1) h1, h2, .inr ?_, h4⟩
        rcases h3 with rfl | h3
        · exact hneg
        · exact h3
      · rename_i hnn
        obtain ⟨r, hr, h1, h2, h3, h4⟩ := ih a m hm.1 hfl
        refine ⟨r, hr, h1, Nat.le_trans h2 (Nat.le_of_lt hm.2), h3, .inr ?_⟩
        rcases h4 with rfl | h4
        · exact Int.not_lt.1 hnn
        · exact h4
    · rw [if_neg hlt]
      obtain rfl : a = b := Nat.le_antisymm hab (Nat.not_lt.1 hlt)
      exact ⟨a, rfl, Nat.le_refl _, Nat.le_refl _, .inl rfl, .inl rfl⟩

theorem find_eq (cmp : Nat → Int) (len : Nat) (h0 : len ≠ 0) :
    ∃ r, r < len ∧ (r = 0 ∨ cmp (r - 1) < 0) ∧ (r + 1 = len ∨ 0 ≤ cmp r) ∧
      find cmp len = if cmp r = 0 then some r else none := by
  obtain ⟨r, hr, _, h2, h3, h4⟩ := findLoop_boundary cmp len 0 (len - 1) (Nat.zero_le _) (Nat.sub_le len 1)
  refine ⟨r, Nat.lt_of_le_of_lt h2 (Nat.sub_one_lt h0), h3, ?_, ?_⟩
  · exact h4.imp_left fun e => by rw [e, Nat.sub_one_add_one h0]
  · simp only [find, h0, hr, if_false, if_true]

theorem Mono.neg_below {cmp : Nat → Int} {len r : Nat} (hm : Mono cmp len) (hr : r < len)
    (h : r = 0 ∨ cmp (r - 1) < 0) : ∀ j, j < r → cmp j < 0 := by
  intro j hj
  rcases h with rfl | h
  · exact absurd hj (Nat.not_lt_zero j)
  · exact Int.lt_of_le_of_lt (hm j (r - 1) (Nat.le_sub_one_of_lt hj) (Nat.sub_lt_of_lt hr)) h

theorem find_some (cmp : Nat → Int) (len : Nat) (hm : Mono cmp len) (i : Nat) (h : find cmp len = some i) :
    i < len ∧ cmp i = 0 ∧ ∀ j, j < i → cmp j ≠ 0 := by
  by_cases h0 : len = 0
  · simp [find, h0] at h
  · obtain ⟨r, hr, hlo, _, hf⟩ := find_eq cmp len h0
    rw [hf] at h
    split at h
    · rename_i hz
      cases h
      exact ⟨hr, hz, fun j hj => Int.ne_of_lt (hm.neg_below hr hlo j hj)⟩
    · contradiction

theorem find_none (cmp : Nat → Int) (len : Nat) (hm : Mono cmp len) (h : find cmp len = none) :
    ∀ j, j < len → cmp j ≠ 0 := by
  intro j hj
  obtain ⟨r, hr, hlo, hhi, hf⟩ := find_eq cmp len (Nat.ne_zero_of_lt hj)
  rw [hf] at h
  split at h
  · cases h
  · rename_i hz
    rcases Nat.lt_trichotomy j r with hjr | rfl | hjr
    · exact Int.ne_of_lt (hm.neg_below hr hlo j hjr)
    · exact hz
    · -- `r` is not the last index, so `0 ≤ cmp r`, and `cmp` does not decrease
      rcases hhi with e | h0
      · exact absurd hj (Nat.not_lt.2 (e ▸ Nat.succ_le_of_lt hjr))
      · exact Int.ne_of_gt (Int.lt_of_lt_of_le (Int.lt_iff_le_and_ne.2 ⟨h0, Ne.symm hz⟩) (hm r j (Nat.le_of_lt hjr) hj))

end Flatcc.Sort
