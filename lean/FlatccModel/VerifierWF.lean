import FlatccModel.Verifier
/-!
# Decidable well-formedness of verifier descriptors

`wfB S M` is the executable form of `WF S M` (plus the two facts about `M`): it is evaluated on the
descriptors the translator extracts from the `*_verifier.h` the current compiler generated, so that
the hypothesis of the C01 theorems is checked against the real output rather than assumed.
-/
namespace Flatcc.Verifier

/-- what the schema compiler guarantees about the calls it generates (`M` = largest alignment) -/
def FieldWF (M : Nat) (f : Field) : Prop :=
  f.id < 32766 ∧
  match f.kind with
  | .scalar _ align => align ∣ M
  | .vector esz align maxc => align ∣ M ∧ maxc * esz < 4294967296
  | .union _ => 1 ≤ f.id
  | .unionVector _ => 1 ≤ f.id
  | .nestedTable _ align => align ∣ M
  | .nestedStruct size align => align ∣ M ∧ size < 4294967296
  | _ => True

def MemberWF (M : Nat) : Member → Prop
  | .struct size align => align ∣ M ∧ size < 4294967296
  | _ => True

structure WF (S : Schema) (M : Nat) : Prop where
  fields : ∀ fs ∈ S.tables, ∀ f ∈ fs, FieldWF M f
  members : ∀ ms ∈ S.unions, ∀ cm ∈ ms, MemberWF M cm.2

def fieldWFb (M : Nat) (f : Field) : Bool :=
  decide (f.id < 32766) &&
  match f.kind with
  | .scalar _ align => decide (align ∣ M)
  | .vector esz align maxc => decide (align ∣ M) && decide (maxc * esz < 4294967296)
  | .union _ => decide (1 ≤ f.id)
  | .unionVector _ => decide (1 ≤ f.id)
  | .nestedTable _ align => decide (align ∣ M)
  | .nestedStruct size align => decide (align ∣ M) && decide (size < 4294967296)
  | _ => true

def memberWFb (M : Nat) : Member → Bool
  | .struct size align => decide (align ∣ M) && decide (size < 4294967296)
  | _ => true

def wfB (S : Schema) (M : Nat) : Bool :=
  decide (4 ∣ M) && decide (M ∣ 4294967296) &&
  S.tables.all (fun fs => fs.all (fieldWFb M)) && S.unions.all (fun ms => ms.all (fun cm => memberWFb M cm.2))

/-- first offending call, for the report -/
def wfFirstBad (S : Schema) (M : Nat) : Option (Nat × Nat) :=
  (S.tables.zipIdx.filterMap (fun (fs, ti) =>
    (fs.find? (fun f => !fieldWFb M f)).map (fun f => (ti, f.id)))).head?

end Flatcc.Verifier
