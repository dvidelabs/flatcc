import FlatccModel.Refmap
/-!
# Reference map under allocation failure (C13 / C18)

`flatcc_refmap_resize` needs the allocator only when the target table is neither the current one nor the
embedded `min_table`.  When the allocator refuses, `resize` returns -1 and `insert` returns not-found (0)
without storing; the map is left exactly as it was.  `stepF` and `effective` take a flag `allocOk`
(does the allocator satisfy a request made during this call?).
-/
namespace Flatcc.Refmap

/-- bucket count `flatcc_refmap_resize(count)` moves to -/
def targetBuckets (m : Map) (count : Nat) : Nat :=
  growLoop (if count < m.count then m.count else count) ((if count < m.count then m.count else count) + 64) minBuckets

/-- `resize` calls the allocator: the target is not the current table and not the embedded one -/
def needsAlloc (m : Map) (count : Nat) : Bool :=
  decide (m.rm.buckets ≠ targetBuckets m count) && decide (targetBuckets m count ≠ minBuckets)

/-- `flatcc_refmap_resize` with a refusing allocator -/
def resizeF (hash : Nat → Nat) (m : Map) (count : Nat) : Map × Int :=
  if needsAlloc m count then (m, -1) else (resize hash m count, 0)

/-- `flatcc_refmap_insert` with a refusing allocator -/
def insertF (hash : Nat → Nat) (m : Map) (src : Nat) (ref : Int) : Map × Int :=
  if src = 0 then (m, ref)
  else if aboveLoad m.count m.rm.buckets && needsAlloc m (m.count * 2) then (m, 0)
  else insert hash m src ref

/-- one public call with the allocator's answer for this call -/
def stepF (hash : Nat → Nat) (m : Map) (op : Op) (allocOk : Bool) : Map × Int :=
  if allocOk then step hash m op else
  match op with
  | .ins s r => insertF hash m s r
  | .rsz n => resizeF hash m n
  | op => step hash m op

/-- what the call amounts to for the abstract map: a refused insert stores nothing -/
def effective (m : Map) (op : Op) (allocOk : Bool) : Op :=
  if allocOk then op else
  match op with
  | .ins s r => if s ≠ 0 ∧ aboveLoad m.count m.rm.buckets = true ∧ needsAlloc m (m.count * 2) = true then .fnd s else .ins s r
  | op => op

/-- run a history of (call, allocator answer) pairs, oldest first; returns the map and the effective history, newest first -/
def runF (hash : Nat → Nat) (ops : List (Op × Bool)) : Map × List Op :=
  ops.foldl (fun st o => ((stepF hash st.1 o.1 o.2).1, effective st.1 o.1 o.2 :: st.2)) (Map.init, [])

end Flatcc.Refmap
