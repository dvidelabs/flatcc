/-!
# Clone / pick with an optional reference map (model of the generated `<T>_clone`, `__flatbuffers_memoize_*`)

The generated clone of an object first asks the reference map for the source address (`memoize_begin`), otherwise
clones every object the source refers to (tables: offset fields in id order; offset vectors: elements in order; union
vectors: value elements), creates the new object from the source's inline content and the new references, and stores
(source address ↦ new reference) in the map (`memoize_end`). Without a map nothing is looked up or stored.

Source: a partial map address → (inline content, referenced addresses). Destination: the objects in creation order; a
reference is the index of an object.
-/
namespace Flatcc.Clone

structure SObj where
  payload : List Nat
  kids : List Nat
  deriving Repr

structure DObj where
  payload : List Nat
  kids : List Nat
  deriving Repr

abbrev Src := Nat → Option SObj

structure St where
  dst : List DObj := []
  memo : List (Nat × Nat) := []     -- the reference map (newest first)
  log : List (Nat × Nat) := []      -- ghost: (source address, reference) of every object created
  deriving Repr

/-- the referents in order, each cloned in the state the one before left; fails as soon as one fails -/
def cloneKids (rec : Nat → St → Option (Nat × St)) : List Nat → St → Option (List Nat × St)
  | [], st => some ([], st)
  | k :: ks, st =>
    match rec k st with
    | none => none
    | some (r, st1) =>
      match cloneKids rec ks st1 with
      | none => none
      | some (rs, st2) => some (r :: rs, st2)

/-- `flatcc_refmap_find` on the map as a list of pairs: the reference stored last under `a` -/
def lookup (m : List (Nat × Nat)) (a : Nat) : Option Nat := (m.find? (fun e => e.1 == a)).map Prod.snd

/-- `fuel` bounds the depth of the source (finite because offsets point forward, `Fwd`); the generated clone has no limit -/
def clone (useMap : Bool) (src : Src) : Nat → Nat → St → Option (Nat × St)
  | 0, _, _ => none
  | f + 1, a, st =>
    match (if useMap then lookup st.memo a else none) with
    | some r => some (r, st)
    | none =>
      match src a with
      | none => none
      | some o =>
        match cloneKids (clone useMap src f) o.kids st with
        | none => none
        | some (rs, st') =>
          let r := st'.dst.length
          some (r, { dst := st'.dst ++ [{ payload := o.payload, kids := rs }],
                     memo := if useMap then (a, r) :: st'.memo else st'.memo,
                     log := (a, r) :: st'.log })

/-- two lists related element by element -/
inductive All2 (R : Nat → Nat → Prop) : List Nat → List Nat → Prop
  | nil : All2 R [] []
  | cons {a b : Nat} {as bs : List Nat} : R a b → All2 R as bs → All2 R (a :: as) (b :: bs)

/-- `R` relates source addresses to references such that related objects have the same inline content and pairwise
related referents: whatever a reader does from `a` in the source and from `r` in the copy, it sees the same -/
def Sim (src : Src) (dst : List DObj) (R : Nat → Nat → Prop) : Prop :=
  ∀ a r, R a r → ∃ o d, src a = some o ∧ dst[r]? = some d ∧ o.payload = d.payload ∧ All2 R o.kids d.kids

/-- content: the pairs created so far relate the source to the copy as `Sim` asks, and the map holds only such pairs -/
def Inv (src : Src) (st : St) : Prop :=
  Sim src st.dst (fun a r => (a, r) ∈ st.log) ∧ (∀ e ∈ st.memo, e ∈ st.log)

/-- sharing, with a map in use: the map is the log, no source address was cloned twice, one object per pair -/
def InvS (st : St) : Prop :=
  st.memo = st.log ∧ (st.log.map Prod.fst).Nodup ∧ st.dst.length = st.log.length

/-- `st'` extends `st`: objects are only appended, pairs only added -/
def Ext (st st' : St) : Prop :=
  (∃ x, st'.dst = st.dst ++ x) ∧ (∀ e ∈ st.log, e ∈ st'.log)

def init : St := {}

/-- offsets point forward (unsigned `uoffset_t`): what an object refers to lies at a higher address -/
def Fwd (src : Src) : Prop := ∀ a o, src a = some o → ∀ k ∈ o.kids, a < k

/-- every referent exists and lies below `bound` (what the verifier establishes for a buffer of `bound` bytes) -/
def Closed (src : Src) (bound : Nat) : Prop := ∀ a o, src a = some o → ∀ k ∈ o.kids, (src k).isSome ∧ k < bound

end Flatcc.Clone
