import FlatccModel.Sortable
/-!
# What a chain of generated `<T>_sort` functions does to a buffer

A table sorter (`gen_table_sorter`) goes through the table's non-deprecated members: a member whose type is marked sortable is
descended into (`__flatbuffers_sort_table_field`, `..._union_field`, `..._table_vector_field_elements`,
`..._union_vector_field_elements`), a member marked `sorted` is then sorted itself (`__flatbuffers_sort_vector_field`). A union
sorter switches on the stored type and descends into the member if its type is marked. Members whose type is not marked are
skipped.
-/
namespace Flatcc.Sortable

structure FieldD where
  dep : Bool                 -- deprecated: no accessor, never touched
  sorted : Bool              -- the member (a vector) carries `sorted`
  target : Option Nat        -- table / union type (index in declaration order) the member refers to, single or vector
  deriving Repr

/-- per table: its members; per union: one entry per union member -/
abbrev Schema := List (List FieldD)

def toTy (fs : List FieldD) : Ty :=
  { direct := fs.any (fun d => !d.dep && d.sorted)
    refs := fs.filterMap (fun d => if d.dep then none else d.target) }

inductive Val where
  | leaf (xs : List Int)                  -- absent member, scalar, string, vector of scalars / strings / structs
  | node (ty : Nat) (fields : List Val)   -- a table; a union value is a node of the union type with one slot per member
  | many (ks : List Val)                  -- vector of tables, union vector

mutual
/-- run the sorter on a value; `st` is the in-place sort of one vector, `mk` says which types have a sorter -/
def sortVal (S : Schema) (st : Val → Val) (mk : Nat → Bool) : Val → Val
  | .leaf xs => .leaf xs
  | .node ty fs => .node ty (sortFields S st mk (S.getD ty []) fs)
  | .many ks => .many (sortList S st mk ks)
def sortList (S : Schema) (st : Val → Val) (mk : Nat → Bool) : List Val → List Val
  | [] => []
  | k :: ks => sortVal S st mk k :: sortList S st mk ks
def sortFields (S : Schema) (st : Val → Val) (mk : Nat → Bool) : List FieldD → List Val → List Val
  | _, [] => []
  | [], fs => fs
  | d :: ds, f :: fs =>
    (if d.dep then f else
      let f1 := match d.target with
        | some t => if mk t then sortVal S st mk f else f
        | none => f
      if d.sorted then st f1 else f1) :: sortFields S st mk ds fs
end

mutual
/-- the value has the shape its declaration says (what the verifier guarantees for a buffer) -/
def confVal (S : Schema) : Nat → Val → Bool
  | _, .leaf _ => true
  | t, .node ty fs => ty == t && confFields S (S.getD ty []) fs
  | t, .many ks => confList S t ks
def confList (S : Schema) : Nat → List Val → Bool
  | _, [] => true
  | t, k :: ks => confVal S t k && confList S t ks
def confFields (S : Schema) : List FieldD → List Val → Bool
  | _, [] => true
  | [], _ => true
  | d :: ds, f :: fs =>
    (match d.target with
      | some t => confVal S t f
      | none => match f with
        | .leaf _ => true
        | _ => false) && confFields S ds fs
end

/-- the two facts about the marks that make skipping safe -/
structure MarksOK (S : Schema) (mk : Nat → Bool) : Prop where
  nodirect : ∀ t, mk t = false → ∀ d ∈ S.getD t [], d.dep = false → d.sorted = false
  closed : ∀ t, mk t = false → ∀ d ∈ S.getD t [], d.dep = false → ∀ g, d.target = some g → mk g = false

def NoSort (ds : List FieldD) : Prop := ∀ d ∈ ds, d.dep = false → d.sorted = false
def NoMark (mk : Nat → Bool) (ds : List FieldD) : Prop := ∀ d ∈ ds, d.dep = false → ∀ g, d.target = some g → mk g = false

end Flatcc.Sortable
