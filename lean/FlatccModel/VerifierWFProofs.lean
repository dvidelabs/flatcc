import FlatccModel.VerifierWF
namespace Flatcc.Verifier

theorem getD_mem_or_nil {α} (l : List (List α)) (t : Nat) : l.getD t [] ∈ l ∨ l.getD t [] = [] := by
  rw [List.getD_eq_getElem?_getD, List.getD_getElem?]
  split
  · exact Or.inl (List.getElem_mem _)
  · exact Or.inr rfl

theorem WF.table {S M} (w : WF S M) (t : Nat) : ∀ f ∈ S.table t, FieldWF M f := by
  unfold Schema.table
  rcases getD_mem_or_nil S.tables t with hm | he
  · exact w.fields _ hm
  · rw [he]; intro f hf; contradiction

theorem lookupMember_mem {ms : List (Nat × Member)} {ty : Nat} {m : Member}
    (h : lookupMember ms ty = some m) : ∃ c, (c, m) ∈ ms := by
  induction ms with
  | nil => simp [lookupMember] at h
  | cons cm r ih =>
    obtain ⟨c, m'⟩ := cm
    unfold lookupMember at h
    split at h
    · injection h with h; subst h; exact ⟨c, List.mem_cons_self⟩
    · obtain ⟨c', hc'⟩ := ih h; exact ⟨c', List.mem_cons_of_mem _ hc'⟩

theorem WF.member {S M} (w : WF S M) (u ty : Nat) {m} (h : lookupMember (S.union u) ty = some m) : MemberWF M m := by
  obtain ⟨c, hc⟩ := lookupMember_mem h
  unfold Schema.union at hc
  rcases getD_mem_or_nil S.unions u with hm | he
  · exact w.members _ hm _ hc
  · rw [he] at hc; contradiction

theorem fieldWFb_sound {M : Nat} {f : Field} (h : fieldWFb M f = true) : FieldWF M f := by
  unfold fieldWFb at h
  unfold FieldWF
  rw [Bool.and_eq_true] at h
  refine ⟨of_decide_eq_true h.1, ?_⟩
  have h2 := h.2
  cases hk : f.kind <;> simp only [hk, Bool.and_eq_true, decide_eq_true_eq] at h2 ⊢ <;> first | exact h2 | trivial

theorem memberWFb_sound {M : Nat} {m : Member} (h : memberWFb M m = true) : MemberWF M m := by
  cases m <;> simp only [memberWFb, MemberWF, Bool.and_eq_true, decide_eq_true_eq] at h ⊢ <;> first | exact h | trivial

theorem wfB_sound {S : Schema} {M : Nat} (h : wfB S M = true) : 4 ∣ M ∧ M ∣ 4294967296 ∧ WF S M := by
  unfold wfB at h
  simp only [Bool.and_eq_true, decide_eq_true_eq, List.all_eq_true] at h
  obtain ⟨⟨⟨h4, hp⟩, ht⟩, hu⟩ := h
  exact ⟨h4, hp, ⟨fun fs hfs f hf => fieldWFb_sound (ht fs hfs f hf), fun ms hms cm hcm => memberWFb_sound (hu ms hms cm hcm)⟩⟩

end Flatcc.Verifier
