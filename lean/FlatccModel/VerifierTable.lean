import FlatccModel.VerifierLeaves
/-! Inside one table: the descriptor invariant `TDInv` that the header of `verify_table` establishes, and under it the vtable reads
(the verifier's `read_vt_entry` and the reader's `__flatbuffers_read_vt` return the same entry) and the field slots. -/
namespace Flatcc.Verifier

/-- what `verify_table` has established about the descriptor it hands to the field calls -/
structure TDInv (c : Ctx) (td : TD) : Prop where
  tab4 : td.table + 4 ≤ c.n
  taba : td.table % 4 = 0
  vt   : readVtBase c td.table = td.vtable
  vsz  : td.vsize = r16 c td.vtable
  vin  : td.vtable + td.vsize ≤ c.n
  vev  : td.vsize % 2 = 0
  vge  : td.vsize ≥ 4
  vta  : td.vtable % 2 = 0
  tin  : td.table + td.tsize ≤ c.n

theorem tableHeader_ok {c : Ctx} {M : Nat} (P : Placed c M) {base offset : Nat} {d : Nat × Nat × Nat × Nat}
    (hb : base < 4294967296) (ho : offset < 4294967296) (h : tableHeader c base offset = .ok d) (ttl : Int) :
    TDInv c { table := d.1, vtable := d.2.1, vsize := d.2.2.1, tsize := d.2.2.2, ttl := ttl } ∧ d.1 = base + offset := by
  simp only [tableHeader, accepts] at h
  obtain ⟨w0, _, _, hin, h4⟩ := P.header hb ho h.1
  rw [w0] at h
  obtain ⟨_, _, g4, g4b, _, _, g7, g8, _, g10, rfl⟩ := h
  have hle : base + offset ≤ c.n := Nat.le_of_add_right_le hin
  rw [P.sub32_eq hle] at g10
  exact ⟨{ tab4 := hin
           taba := h4
           vt := toNat_sub_soffset (P.lt hle) (r32_lt _ _) g4.1 g4b
           vsz := rfl
           vin := g7.1
           vev := g7.2
           vge := g8
           vta := g4.2
           tin := Nat.add_le_of_le_sub' hle g10 }, rfl⟩

theorem readVt_spec {c : Ctx} {M : Nat} (P : Placed c M) (td : TD) (id : Nat) (hid : id < 32766)
    (inv : TDInv c td) :
    AllSafe c (readVt c td.table id).2 ∧ readVtEntry c td id = .ok (readVt c td.table id).1 := by
  have hlt : 2 * (id + 2) < 65536 := Nat.mul_lt_mul_of_pos_left (Nat.add_lt_add_right hid 2) Nat.two_pos
  have hvo : w16 ((id + 2) * 2) = 2 * (id + 2) := by rw [Nat.mul_comm]; exact Nat.mod_eq_of_lt hlt
  have s1 : Safe c ⟨td.table, 4, 4⟩ := safe4 P inv.tab4 inv.taba
  have hv2 : td.vtable + 2 ≤ c.n := Nat.le_trans (Nat.add_le_add_left (Nat.le_trans (by decide) inv.vge) _) inv.vin
  have s2 : Safe c ⟨td.vtable, 2, 2⟩ := safe_rel P (by decide) hv2 inv.vta
  unfold readVt readVtEntry
  simp only [inv.vt, hvo, ← inv.vsz]
  by_cases h : td.vsize ≥ 2 * (id + 3)
  · -- `2 * (id + 3)` unfolds to `2 * (id + 2) + 2`: the entry lies inside the vtable
    have h2 : ¬ (2 * (id + 2) ≥ td.vsize) := Nat.not_le_of_gt (Nat.le_of_succ_le h)
    have hle : td.vtable + 2 * (id + 2) + 2 ≤ c.n := Nat.le_trans (Nat.add_le_add_left h _) inv.vin
    rw [if_pos h, if_neg h2, rd16_of_le hle]
    have hev : (td.vtable + 2 * (id + 2)) % 2 = 0 := by rw [Nat.add_mul_mod_self_left]; exact inv.vta
    exact ⟨.cons s1 (.cons s2 (.cons (safe_rel P (by decide) hle hev) .nil)), rfl⟩
  · -- the reader's test `vsize < 2 (id + 3)` gives the verifier's `vo ≥ vsize` because `vsize` is even
    have h2 : 2 * (id + 2) ≥ td.vsize :=
      Nat.le_of_lt_add_of_dvd (Nat.lt_of_not_le h) (Nat.dvd_of_mod_eq_zero inv.vev) (Nat.dvd_mul_right 2 _)
    rw [if_neg h, if_pos h2]
    exact ⟨.cons s1 (.cons s2 .nil), rfl⟩

section
variable {c : Ctx} {M : Nat} (P : Placed c M) {td : TD} (inv : TDInv c td) {id : Nat} (hid : id < 32766) {req : Bool}
include P inv hid

theorem scalar_sound {size align : Nat} (hal : align ∣ M) (h : verifyField c td id req size align = .ok ()) :
    AllSafe c (if (readVt c td.table id).1 = 0 then (readVt c td.table id).2
               else (readVt c td.table id).2 ++ [⟨td.table + (readVt c td.table id).1, size, align⟩]) := by
  have hvt := readVt_spec P td id hid inv
  unfold verifyField at h
  rw [hvt.2, ok_bind] at h
  split
  · exact hvt.1
  · rename_i hz
    simp only [if_neg hz, accepts] at h
    -- `(vte + table + (uoffset_t)buf) % align` is the alignment of the absolute address
    rw [Nat.add_comm _ (w32 c.A), abs_mod (P.pow hal), Nat.add_comm _ td.table] at h
    have hin : td.table + (readVt c td.table id).1 + size ≤ c.n := by
      rw [Nat.add_assoc]; exact Nat.le_trans (Nat.add_le_add_left h.1 _) inv.tin
    exact .append hvt.1 (.cons ⟨hin, h.2⟩ .nil)

theorem offsetV_ok {K} (h : offsetV c td id req K = .ok ()) :
    ((readVt c td.table id).1 = 0 → req = false) ∧
    ((readVt c td.table id).1 ≠ 0 →
      td.table + (readVt c td.table id).1 + 4 ≤ c.n ∧ (td.table + (readVt c td.table id).1) % 4 = 0 ∧
      K (td.table + (readVt c td.table id).1) (r32 c (td.table + (readVt c td.table id).1)) = .ok ()) := by
  unfold offsetV getOffsetField at h
  rw [bind_assoc, (readVt_spec P td id hid inv).2, ok_bind] at h
  constructor
  · intro hz
    simpa only [if_pos hz, bind_assoc, pure_bind, accepts, and_true] using h
  · intro hz
    simp only [if_neg hz, bind_assoc, pure_bind, accepts, Nat.add_comm _ td.table] at h
    exact ⟨h.2.2.1, h.2.1, h.2.2.2⟩

theorem offsetV_sound {K acc} (hK : Covers c K acc) (h : offsetV c td id req K = .ok ()) :
    AllSafe c (offsetAcc c td.table id acc) := by
  have hvt := (readVt_spec P td id hid inv).1
  unfold offsetAcc
  split
  · exact hvt
  · rename_i hz
    have hk := (offsetV_ok P inv hid h).2 hz
    exact .append hvt (.cons (safe4 P hk.1 hk.2.1) (hK _ _ (P.lt (Nat.le_of_add_right_le hk.1)) (r32_lt _ _) hk.2.2))

end

end Flatcc.Verifier
