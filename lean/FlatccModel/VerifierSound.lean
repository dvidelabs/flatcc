import FlatccModel.VerifierTable
import FlatccModel.VerifierWFProofs
/-! Soundness of the verifier model w.r.t. the reader's accesses, by induction on the fuel; one generated call is set against the reads
of the matching accessors kind by kind (`kind_sound`). -/
namespace Flatcc.Verifier

/-- tables accepted with this much fuel are safe to read; `fuel'` is the reader model's own depth cut, independent of the verifier's
`fuel`, hence quantified inside -/
def TableSound (S : Schema) (c : Ctx) (fuel : Nat) : Prop :=
  ∀ base offset ttl t, base < 4294967296 → offset < 4294967296 →
    verifyTable S c fuel base offset ttl t = .ok () → ∀ fuel', AllSafe c (tableAcc S c fuel' (base + offset) t)

/-- the same for every buffer at every address: what a nested buffer needs (it is verified as a buffer of its own) -/
def TableSoundAll (S : Schema) (M fuel : Nat) : Prop := ∀ c, Placed c M → TableSound S c fuel

theorem covers_table {c : Ctx} (S : Schema) {fuel : Nat} (IH : TableSound S c fuel) (ttl : Int) (t fuel' : Nat) :
    Covers c (fun b o => verifyTable S c fuel b o ttl t) (fun p => tableAcc S c fuel' p t) :=
  fun b o hb ho h => IH b o ttl t hb ho h fuel'

section
variable {c : Ctx} {M : Nat} (P : Placed c M) (S : Schema) {fuel : Nat} (IH : TableSound S c fuel)
include P IH

theorem covers_member (m : Option Member) (hm : ∀ m', m = some m' → MemberWF M m') (ttl : Int) (fuel' : Nat) :
    Covers c (fun b o => verifyMember S c fuel b o ttl m) (fun p => memberAcc S c fuel' p m) := by
  intro b o hb ho h
  cases m with
  | none => unfold memberAcc; exact .nil
  | some m' =>
    unfold verifyMember at h
    unfold memberAcc
    cases m' with
    | table t => exact IH b o ttl t hb ho h fuel'
    | struct size align =>
      have hw : align ∣ M ∧ size < 4294967296 := hm _ rfl
      exact .cons (verifyStruct_safe P (Nat.le_refl _) hw.2 hw.1 h) .nil
    | string => exact covers_string P b o hb ho h

theorem covers_tableVector (g : Bool) (ttl : Int) (t fuel' : Nat) :
    Covers c (fun b o => guard' g >>= fun _ => verifyVector c b o 4 4 1073741823 >>= fun n =>
                verifyTables S c fuel ttl t n (w32 (w32 (b + o) + 4)))
      (fun p => ⟨p, 4, 4⟩ :: tableElemsAcc S c fuel' t (r32 c p) (p + 4)) :=
  covers_guard g <| covers_offsetVector P <|
    offsetLoop_safe P (covers_table S IH ttl t fuel') (fun _ _ => by rw [verifyTables])
      (fun _ => by rw [tableElemsAcc]) (fun _ _ => by rw [tableElemsAcc])

theorem verifyUnions_safe (w : WF S M) (ttl : Int) (u fuel' : Nat) :
    ∀ cnt tbase base, base % 4 = 0 → base + cnt * 4 ≤ c.n → tbase + cnt * 1 ≤ c.n →
      verifyUnions S c fuel ttl u cnt tbase base = .ok () → AllSafe c (unionElemsAcc S c fuel' u cnt tbase base) := by
  intro cnt
  induction cnt with
  | zero => intro tbase base _ _ _ _; rw [unionElemsAcc]; exact .nil
  | succ cnt ih =>
    intro tbase base hb4 hrange htr h
    -- `hrange : base + 4 + cnt * 4 ≤ c.n`, `htr : tbase + 1 + cnt * 1 ≤ c.n`, as the next round asks
    rw [Nat.succ_mul, Nat.add_comm (cnt * 4), ← Nat.add_assoc] at hrange
    rw [Nat.succ_mul, Nat.add_comm (cnt * 1), ← Nat.add_assoc] at htr
    have hin : base + 4 ≤ c.n := Nat.le_of_add_right_le hrange
    rw [verifyUnions, rd32_bind_ok, rd8_bind_ok, unit_bind_ok, P.w32_eq hin] at h
    obtain ⟨_, _, h3, h4⟩ := h
    rw [unionElemsAcc]
    refine .append ?_ (ih (tbase + 1) (base + 4) (by rw [Nat.add_mod_right]; exact hb4) hrange htr h4)
    split
    · exact .nil
    · rename_i ht0
      refine .cons (safe4 P hin hb4) ?_
      -- a non-NONE type with a zero value offset is rejected, so the member was verified
      by_cases hz : r32 c base = 0
      · rw [if_pos hz] at h3
        exact absurd (eq_of_beq (guard_ok h3)) ht0
      · rw [if_neg hz, unit_bind_ok] at h3
        exact covers_member P S IH _ (fun m' hm' => w.member u _ hm') ttl fuel' base _
          (P.lt (Nat.le_of_add_right_le hin)) (r32_lt _ _) h3.2

theorem slotTable_safe {base : Nat} {ttl : Int} {t : Nat} (hb4 : base % 4 = 0) (hb : base < 4294967296)
    (h : verifyTable S c fuel base (r32 c base) ttl t = .ok ()) (fuel' : Nat) :
    AllSafe c (⟨base, 4, 4⟩ :: tableAcc S c fuel' (base + r32 c base) t) := by
  refine .cons ?_ (IH base _ ttl t hb (r32_lt _ _) h fuel')
  -- the accepted table header lies behind the slot and inside the buffer
  cases fuel with
  | zero => rw [verifyTable] at h; cases h
  | succ fuel =>
    rw [verifyTable_succ, unit_bind_ok] at h
    obtain ⟨d, hd, _⟩ := bind_ok h.2
    obtain ⟨inv, htab⟩ := tableHeader_ok P hb (r32_lt _ _) hd 0
    have hin : d.1 + 4 ≤ c.n := inv.tab4
    rw [htab] at hin
    have hle : base + 4 ≤ base + r32 c base + 4 := Nat.add_le_add_right (Nat.le_add_right ..) 4
    exact safe4 P (Nat.le_trans hle hin) hb4

theorem rootAcc_safe {ttl : Int} {t : Nat} (h : (rd32 c 0 >>= fun o => verifyTable S c fuel 0 o ttl t) = .ok ()) (fuel' : Nat) :
    AllSafe c (rootAcc S c fuel' t) := by
  have := slotTable_safe P S IH (by decide) (by decide) (rd32_bind_ok.mp h).2 fuel'
  rw [Nat.zero_add] at this
  exact this

end

theorem nestedTable_safe {c : Ctx} {M : Nat} (P : Placed c M) (S : Schema) {fuel : Nat} (IHall : TableSoundAll S M fuel)
    (ttl : Int) (t fuel' : Nat) (s len : Nat) (hr : s + len ≤ c.n) (h : verifyNestedTable S c fuel s len ttl t = .ok ()) :
    AllSafe c ((rootAcc S (sub c s len) fuel' t).map (shiftAcc s)) := by
  rw [verifyNestedTable, unit_bind_ok] at h
  have P' := verifyHeader_placed P.m4 P.mpow h.1
  exact .shift hr (rootAcc_safe P' S (IHall _ P') h.2 fuel')

section
variable {c : Ctx} {M : Nat} (P : Placed c M) (S : Schema) (w : WF S M) {fuel : Nat} (IH : TableSound S c fuel)
  {td : TD} (inv : TDInv c td) {id : Nat} {req : Bool} {u : Nat} (hid : id < 32766)
include P w IH inv hid

theorem union_sound (h : verifyKind S c fuel td ⟨id, req, .union u⟩ = .ok ()) (fuel' : Nat) :
    AllSafe c (fieldAcc S c fuel' td.table ⟨id, req, .union u⟩) := by
  unfold verifyKind at h
  unfold fieldAcc
  have hvtT := readVt_spec P td (id - 1) (Nat.lt_of_le_of_lt (Nat.sub_le _ _) hid) inv
  rw [hvtT.2, ok_bind] at h
  by_cases hzT : (readVt c td.table (id - 1)).1 = 0
  · rw [if_pos hzT]
    exact hvtT.1
  · rw [if_neg hzT, unit_bind_ok, (readVt_spec P td id hid inv).2, ok_bind, rd8_bind_ok, unit_bind_ok] at h
    obtain ⟨_, htyr, _, h⟩ := h
    rw [if_neg hzT]
    refine .append hvtT.1 (.cons (safe1 htyr) ?_)
    by_cases ht0 : r8 c (td.table + (readVt c td.table (id - 1)).1) = 0
    · rw [if_pos ht0]
      exact .nil
    · rw [if_neg ht0] at h ⊢
      intro a ha
      exact offsetV_sound P inv hid (covers_member P S IH _ (fun m' hm' => w.member u _ hm') td.ttl fuel') h a ha

theorem unionVector_sound (h : verifyKind S c fuel td ⟨id, req, .unionVector u⟩ = .ok ()) (fuel' : Nat) :
    AllSafe c (fieldAcc S c fuel' td.table ⟨id, req, .unionVector u⟩) := by
  unfold verifyKind at h
  rw [fieldAcc_unionVector]
  have hidT : id - 1 < 32766 := Nat.lt_of_le_of_lt (Nat.sub_le _ _) hid
  have hvt := readVt_spec P td id hid inv
  have hvtT := readVt_spec P td (id - 1) hidT inv
  rw [hvtT.2, ok_bind, unit_bind_ok] at h
  obtain ⟨hpre, h⟩ := h
  by_cases hzT : (readVt c td.table (id - 1)).1 = 0
  · -- type vector absent ⇒ value vector absent: only vtable reads
    rw [if_pos hzT, hvt.2, ok_bind, unit_bind_ok] at hpre
    have hz : (readVt c td.table id).1 = 0 := eq_of_beq (guard_ok hpre.1)
    unfold offsetAcc
    simp only [if_pos hzT, if_pos hz]
    exact .append (.append hvtT.1 hvt.1) .nil
  · rw [if_neg hzT]
    obtain ⟨hinT, _, hK1⟩ := (offsetV_ok P inv hidT h).2 hzT
    obtain ⟨count, hvT, h2⟩ := bind_ok hK1
    obtain ⟨wT, _, hcount, hrT, _⟩ :=
      verifyVector_ok P (P.lt (Nat.le_of_add_right_le hinT)) (r32_lt _ _) (Nat.one_dvd M) (by decide) hvT
    have hV := offsetV_ok P inv hid h2
    refine .append (.append (offsetV_sound P inv hidT (covers_vector P (Nat.one_dvd M) (by decide) _) h) ?_) ?_
    · -- `N_f_union` reads the value vector's header only
      refine offsetV_sound P inv hid (Covers.mono (covers_guard _ (covers_vector P P.m4 (by decide) _)) ?_) h2
      intro p a ha
      rw [List.mem_singleton.mp ha]
      exact List.mem_cons_self
    · rw [← hcount]
      by_cases hz : (readVt c td.table id).1 = 0
      · -- value vector absent: only allowed when the type vector is empty ⇒ no element reads
        have hreq := hV.1 hz
        simp only [accepts] at hreq
        rw [Nat.eq_zero_of_not_pos hreq.2, unionElemsAcc]
        exact .nil
      · obtain ⟨hin, _, hK⟩ := hV.2 hz
        obtain ⟨n, hv, hK⟩ := bind_ok (unit_bind_ok.mp hK).2
        rw [unit_bind_ok] at hK
        obtain ⟨wV, wV4, _, hr, h4v, _⟩ :=
          verifyVector_ok P (P.lt (Nat.le_of_add_right_le hin)) (r32_lt _ _) P.m4 (by decide) hv
        have hnc : n = count := of_decide_eq_true (guard_ok hK.1)
        subst hnc
        rw [wT, wV, wV4] at hK
        rw [if_neg hz]
        exact verifyUnions_safe P S IH w _ u fuel' n _ _ (by rw [Nat.add_mod_right]; exact h4v) hr hrT hK.2

end

theorem kind_sound {c : Ctx} {M : Nat} (P : Placed c M) (S : Schema) (w : WF S M) (fuel : Nat) (IHall : TableSoundAll S M fuel)
    (td : TD) (inv : TDInv c td) (f : Field) (hf : FieldWF M f)
    (h : verifyKind S c fuel td f = .ok ()) (fuel' : Nat) : AllSafe c (fieldAcc S c fuel' td.table f) := by
  -- `a`, `ha` first: with the goal left as `AllSafe …` each `exact` below has the unifier unfold both access lists (slow to check)
  intro a ha
  have IH : TableSound S c fuel := IHall c P
  obtain ⟨id, req, kind⟩ := f
  obtain ⟨hid, hk⟩ := hf
  cases kind
  case union u => exact union_sound P S w IH inv hid h fuel' a ha
  case unionVector u => exact unionVector_sound P S w IH inv hid h fuel' a ha
  -- the other arms are `verifyField` or an `offsetV` / `offsetAcc` by unfolding (see `offsetV`); the `Covers` lemma names the target
  all_goals unfold verifyKind at h; unfold fieldAcc at ha
  case scalar size align => exact scalar_sound P inv hid hk h a ha
  case string => exact offsetV_sound P inv hid (covers_string P) h a ha
  case vector esz align maxc => exact offsetV_sound P inv hid (covers_vector P hk.1 hk.2 _) h a ha
  case stringVector => exact offsetV_sound P inv hid (covers_stringVector P) h a ha
  case table t => exact offsetV_sound P inv hid (covers_table S IH td.ttl t fuel') h a ha
  case tableVector t => exact offsetV_sound P inv hid (covers_tableVector P S IH _ _ t fuel') h a ha
  case nestedTable t align =>
    exact offsetV_sound P inv hid (covers_nested P hk (nestedTable_safe P S IHall td.ttl t fuel')) h a ha
  case nestedStruct size align =>
    exact offsetV_sound P inv hid (covers_nested P hk.1 (nestedStruct_safe P hk.1 hk.2)) h a ha

theorem table_sound_all (M : Nat) (S : Schema) (w : WF S M) : ∀ fuel, TableSoundAll S M fuel := by
  intro fuel
  induction fuel with
  | zero => intro c _ base offset ttl t _ _ h; rw [verifyTable] at h; cases h
  | succ fuel ih =>
    intro c P base offset ttl t hb ho h fuel'
    rw [verifyTable_succ, unit_bind_ok] at h
    obtain ⟨d, hd, hf⟩ := bind_ok h.2
    obtain ⟨inv, htab⟩ := tableHeader_ok P hb ho hd (ttl - 1)
    cases fuel' with
    | zero => rw [tableAcc]; exact .nil
    | succ fuel' =>
      rw [tableAcc, ← htab]
      intro a ha
      obtain ⟨f, hf', ha⟩ := (mem_fieldsAcc _).mp ha
      exact kind_sound P S w fuel ih _ inv f (w.table t f hf') ((fields_all c fuel _ _).mp hf f hf') fuel' a ha

theorem table_sound {c : Ctx} {M : Nat} (P : Placed c M) (S : Schema) (w : WF S M) : ∀ fuel, TableSound S c fuel :=
  fun fuel => table_sound_all M S w fuel c P

end Flatcc.Verifier
