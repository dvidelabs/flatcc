import FlatccModel.BuilderEmit
/-!
# The table frame: layout, vtable, and the image `create_table` emits

`create_table` emits the data stack with every offset field patched (`patchAll`). Seen as that emitted image (`body`),
a `table_add` / `table_add_offset` call only appends (`layoutStep_body`), so what a reader finds in an earlier field
never changes.
-/
namespace Flatcc.Builder

theorem alignUp_ge (x a : Nat) (h : 0 < a) : x ≤ alignUp x a := by
  unfold alignUp
  have h1 : x + a ≤ (x + a - 1) / a * a + a := Nat.le_of_pred_lt (Nat.lt_div_mul_add (a := x + a - 1) h)
  exact Nat.le_of_add_le_add_right h1

theorem alignUp_mod (x a : Nat) : alignUp x a % a = 0 := by
  unfold alignUp; exact Nat.mul_mod_left _ _

theorem patchAt_length (d : List Nat) (p : Nat) (v : List Nat) (h : p + v.length ≤ d.length) : (patchAt d p v).length = d.length := by
  simp only [patchAt, List.length_append, List.length_take, List.length_drop, Nat.min_eq_left (Nat.le_of_add_right_le h)]
  exact Nat.add_sub_cancel' h

theorem patchAt_self (d : List Nat) (p : Nat) (v : List Nat) (h : p + v.length ≤ d.length) : slice (patchAt d p v) p v.length = v := by
  unfold patchAt
  rw [List.append_assoc]
  exact slice_mid (d.take p) v _ p v.length (List.length_take_of_le (Nat.le_of_add_right_le h)) rfl

theorem patchAt_before (d : List Nat) (p : Nat) (v : List Nat) (q n : Nat) (h1 : q + n ≤ p) (h : p + v.length ≤ d.length) :
    slice (patchAt d p v) q n = slice d q n := by
  have hl : (d.take p).length = p := List.length_take_of_le (Nat.le_of_add_right_le h)
  unfold patchAt
  rw [List.append_assoc, slice_append_left _ _ _ _ (by rw [hl]; exact h1)]
  unfold slice
  rw [List.drop_take, List.take_take, Nat.min_eq_left (Nat.le_sub_of_add_le' h1)]

theorem patchAt_after (d : List Nat) (p : Nat) (v : List Nat) (q n : Nat) (h1 : p + v.length ≤ q) (h : p + v.length ≤ d.length) :
    slice (patchAt d p v) q n = slice d q n := by
  unfold patchAt slice
  have hl : (d.take p ++ v).length = p + v.length := by
    rw [List.length_append, List.length_take, Nat.min_eq_left (Nat.le_of_add_right_le h)]
  rw [List.drop_append, List.drop_eq_nil_of_le (hl ▸ h1), List.nil_append, hl, List.drop_drop, Nat.add_sub_of_le h1]

theorem patchAt_append (d x : List Nat) (p : Nat) (v : List Nat) (h : p + v.length ≤ d.length) :
    patchAt (d ++ x) p v = patchAt d p v ++ x := by
  unfold patchAt
  rw [List.take_append_of_le_length (Nat.le_of_add_right_le h), List.drop_append_of_le_length h]
  simp only [List.append_assoc]

theorem patchAt_end (d z v : List Nat) (p : Nat) (hp : d.length = p) (h : z.length = v.length) : patchAt (d ++ z) p v = d ++ v := by
  unfold patchAt
  subst hp
  rw [List.take_left, ← h, ← List.length_append, List.drop_length, List.append_nil]

theorem patchAll_inside (base : Int) (d x : List Nat) (L : List (Nat × Int)) (hb : ∀ o ∈ L, o.1 + 4 ≤ d.length) :
    patchAll base (d ++ x) L = patchAll base d L ++ x ∧ (patchAll base d L).length = d.length := by
  induction L generalizing d with
  | nil => exact ⟨rfl, rfl⟩
  | cons o os ih =>
    have ho : o.1 + (patchVal base o.1 o.2).length ≤ d.length := hb o List.mem_cons_self
    have hl := patchAt_length d o.1 _ ho
    have := ih (patchAt d o.1 (patchVal base o.1 o.2)) (fun q hq => by rw [hl]; exact hb q (List.mem_cons_of_mem _ hq))
    simp only [patchAll, List.foldl_cons] at this ⊢
    rw [patchAt_append d x o.1 _ ho]
    exact ⟨this.1, this.2.trans hl⟩

theorem patchAll_append (base : Int) (d x : List Nat) (L : List (Nat × Int)) (hb : ∀ o ∈ L, o.1 + 4 ≤ d.length) :
    patchAll base (d ++ x) L = patchAll base d L ++ x := (patchAll_inside base d x L hb).1

theorem patchAll_length (base : Int) (d : List Nat) (L : List (Nat × Int)) (hb : ∀ o ∈ L, o.1 + 4 ≤ d.length) :
    (patchAll base d L).length = d.length := (patchAll_inside base d [] L hb).2

def fieldSize : FieldVal → Nat
  | .inl size _ _ => size
  | .off _ => 4
def fieldAlign : FieldVal → Nat
  | .inl _ align _ => align
  | .off _ => 4
/-- what a reader finds in a field added at data position `p` of a table emitted at `base` -/
def fieldBytes (base : Int) (p : Nat) : FieldVal → List Nat
  | .inl size _ bytes => (bytes ++ zeros (size - bytes.length)).take size
  | .off r => patchVal base p r

theorem fieldBytes_length (base : Int) (p : Nat) (v : FieldVal) : (fieldBytes base p v).length = fieldSize v := by
  cases v with
  | inl size align bytes =>
    simp only [fieldBytes, fieldSize, List.length_take, List.length_append, zeros_length]
    have hs : size ≤ bytes.length + (size - bytes.length) := Nat.sub_le_iff_le_add'.1 (Nat.le_refl _)
    exact Nat.min_eq_left hs
  | off r => rfl

/-- every offset field to patch lies inside the data stack -/
def OffsBound (t : TableLayout) : Prop := ∀ o ∈ t.offsets, o.1 + 4 ≤ t.data.length

/-- the table body as `create_table` emits it at `base` -/
def body (base : Int) (t : TableLayout) : List Nat := patchAll base t.data t.offsets

theorem body_length (base : Int) (t : TableLayout) (hob : OffsBound t) : (body base t).length = t.data.length :=
  patchAll_length _ _ _ hob

theorem body_pad_length (base : Int) (t : TableLayout) (a : Nat) (hob : OffsBound t) (h : 0 < a) :
    (body base t ++ zeros (alignUp t.data.length a - t.data.length)).length = alignUp t.data.length a := by
  rw [List.length_append, body_length base t hob, zeros_length, Nat.add_sub_of_le (alignUp_ge _ _ h)]

theorem layoutStep_vs (t : TableLayout) (f : Nat × FieldVal) :
    (layoutStep t f).vs = t.vs ++ [(f.1, alignUp t.data.length (fieldAlign f.2) + 4)] := by
  obtain ⟨id, v⟩ := f
  cases v <;> rfl

theorem layoutStep_data_length (t : TableLayout) (f : Nat × FieldVal) (h : 0 < fieldAlign f.2) :
    (layoutStep t f).data.length = alignUp t.data.length (fieldAlign f.2) + fieldSize f.2 := by
  have hge := alignUp_ge t.data.length (fieldAlign f.2) h
  obtain ⟨id, v⟩ := f
  cases v with
  | inl size align bytes =>
    simp only [layoutStep, fieldAlign, fieldSize, List.length_append, zeros_length, List.length_take] at hge ⊢
    have hs : size ≤ bytes.length + (size - bytes.length) := Nat.sub_le_iff_le_add'.1 (Nat.le_refl _)
    rw [Nat.add_sub_of_le hge, Nat.min_eq_left hs]
  | off r =>
    simp only [layoutStep, fieldAlign, fieldSize, List.length_append, zeros_length, le32_length] at hge ⊢
    rw [Nat.add_sub_of_le hge]

theorem OffsBound_step (t : TableLayout) (f : Nat × FieldVal) (hf : 0 < fieldAlign f.2) (h : OffsBound t) :
    OffsBound (layoutStep t f) := by
  intro o ho
  rw [layoutStep_data_length t f hf]
  have hle := Nat.le_trans (alignUp_ge t.data.length (fieldAlign f.2) hf) (Nat.le_add_right _ (fieldSize f.2))
  obtain ⟨id, v⟩ := f
  cases v with
  | inl size align bytes => exact Nat.le_trans (h o ho) hle
  | off r =>
    rcases List.mem_append.mp ho with h1 | h1
    · exact Nat.le_trans (h o h1) hle
    · rw [List.mem_singleton.mp h1]; exact Nat.le_refl _

theorem layoutStep_body (base : Int) (t : TableLayout) (f : Nat × FieldVal) (hob : OffsBound t) :
    body base (layoutStep t f) = body base t ++ zeros (alignUp t.data.length (fieldAlign f.2) - t.data.length) ++
      fieldBytes base (alignUp t.data.length (fieldAlign f.2)) f.2 := by
  obtain ⟨id, v⟩ := f
  cases v with
  | inl size align bytes =>
    show patchAll base (t.data ++ _ ++ _) t.offsets = _
    rw [List.append_assoc, patchAll_append _ _ _ _ hob, List.append_assoc]
    rfl
  | off r =>
    -- the new patch lands exactly on the `le32 0` placeholder just appended
    have hl := body_pad_length base t 4 hob (by decide)
    show patchAll base (t.data ++ _ ++ le32 0) (t.offsets ++ [_]) = _
    simp only [patchAll, List.foldl_append, List.foldl_cons, List.foldl_nil]
    rw [List.append_assoc, ← patchAll, patchAll_append _ _ _ _ hob, ← List.append_assoc]
    exact patchAt_end _ _ _ _ hl (le32_length 0)

/-- field `v` sits at data position `p`, wherever the table is emitted -/
def FieldAt (t : TableLayout) (p : Nat) (v : FieldVal) : Prop :=
  p % fieldAlign v = 0 ∧ p + fieldSize v ≤ t.data.length ∧ ∀ base, slice (body base t) p (fieldSize v) = fieldBytes base p v

theorem FieldAt_step (t : TableLayout) (f : Nat × FieldVal) (hob : OffsBound t) (hf : 0 < fieldAlign f.2) (p : Nat) (v : FieldVal)
    (h : FieldAt t p v) : FieldAt (layoutStep t f) p v := by
  obtain ⟨ha, hb, hc⟩ := h
  have hle := Nat.le_trans (alignUp_ge t.data.length (fieldAlign f.2) hf) (Nat.le_add_right _ (fieldSize f.2))
  refine ⟨ha, by rw [layoutStep_data_length t f hf]; exact Nat.le_trans hb hle, fun base => ?_⟩
  rw [layoutStep_body base t f hob, List.append_assoc, slice_append_left _ _ _ _ (by rw [body_length _ _ hob]; exact hb)]
  exact hc base

theorem FieldAt_new (t : TableLayout) (f : Nat × FieldVal) (hob : OffsBound t) (hf : 0 < fieldAlign f.2) :
    FieldAt (layoutStep t f) (alignUp t.data.length (fieldAlign f.2)) f.2 := by
  refine ⟨alignUp_mod _ _, Nat.le_of_eq (layoutStep_data_length t f hf).symm, fun base => ?_⟩
  have hl := body_pad_length base t (fieldAlign f.2) hob hf
  have := slice_mid _ (fieldBytes base (alignUp t.data.length (fieldAlign f.2)) f.2) [] _ _ hl (fieldBytes_length _ _ _)
  rwa [List.append_nil, ← layoutStep_body base t f hob] at this

theorem layoutTable_snoc (fs : List (Nat × FieldVal)) (f : Nat × FieldVal) :
    layoutTable (fs ++ [f]) = layoutStep (layoutTable fs) f := List.foldl_append ..

/-- induction along the add calls of a frame, last call last -/
theorem layoutTable_induction {P : List (Nat × FieldVal) → TableLayout → Prop} (nil : P [] layoutInit)
    (snoc : ∀ fs f, P fs (layoutTable fs) → P (fs ++ [f]) (layoutStep (layoutTable fs) f)) (fs : List (Nat × FieldVal)) :
    P fs (layoutTable fs) := by
  have h : ∀ r : List (Nat × FieldVal), P r.reverse (layoutTable r.reverse) := by
    intro r
    induction r with
    | nil => exact nil
    | cons f r ih =>
      rw [List.reverse_cons, layoutTable_snoc]
      exact snoc _ f ih
  simpa using h fs.reverse

theorem layout_fields (fs : List (Nat × FieldVal)) (hpos : ∀ f ∈ fs, 0 < fieldAlign f.2) :
    OffsBound (layoutTable fs) ∧ ∀ f ∈ fs, ∃ p, (f.1, p + 4) ∈ (layoutTable fs).vs ∧ FieldAt (layoutTable fs) p f.2 := by
  induction fs using layoutTable_induction with
  | nil => exact ⟨fun _ ho => absurd ho List.not_mem_nil, fun _ h => absurd h List.not_mem_nil⟩
  | snoc fs g ih =>
    obtain ⟨hob, hall⟩ := ih (fun f hf => hpos f (List.mem_append_left _ hf))
    have hg := hpos g (List.mem_append_right _ (List.mem_singleton.mpr rfl))
    refine ⟨OffsBound_step _ _ hg hob, fun f hf => ?_⟩
    rw [layoutStep_vs]
    rcases List.mem_append.mp hf with hf | hf
    · obtain ⟨p, hm, hp⟩ := hall f hf
      exact ⟨p, List.mem_append_left _ hm, FieldAt_step _ _ hob hg _ _ hp⟩
    · cases List.mem_singleton.mp hf
      exact ⟨_, List.mem_append_right _ (List.mem_singleton.mpr rfl), FieldAt_new _ _ hob hg⟩

/-- `__flatbuffers_read_vt`: the vtable entry of field `id`, 0 when the vtable is too short. A specification of the reader on a
byte list, not run by the driver; the model of the macro that is run against C is `Verifier.readVt` (Reader.lean) -/
def vtLookup (vt : List Nat) (id : Nat) : Nat := if 4 + 2 * id + 2 ≤ rd16 vt 0 then rd16 vt (4 + 2 * id) else 0

/-- the vtable entry `end_table` writes for field `id`: that of the first add call with this id, 0 if there is none -/
def vtEntryOf (t : TableLayout) (id : Nat) : Nat := match t.vs.find? (fun e => e.1 == id) with | some e => e.2 | none => 0

theorem vtableBytes_eq (t : TableLayout) : vtableBytes t = le16 (2 * (t.idEnd + 2)) ++ le16 (t.data.length + 4) ++
    ((List.range t.idEnd).map (fun id => le16 (vtEntryOf t id))).flatten := rfl

theorem vtableBytes_length (t : TableLayout) : (vtableBytes t).length = 2 * (t.idEnd + 2) := by
  have hf := flatten_length ((List.range t.idEnd).map (fun id => le16 (vtEntryOf t id))) 2
    (List.forall_mem_map.2 fun _ _ => rfl)
  rw [vtableBytes_eq, List.length_append, List.length_append, hf, List.length_map, List.length_range, le16_length, le16_length,
    Nat.mul_add, Nat.add_comm]

theorem vtableBytes_size (t : TableLayout) : slice (vtableBytes t) 0 2 = le16 (2 * (t.idEnd + 2)) := by
  rw [vtableBytes_eq, List.append_assoc]
  exact slice_mid [] (le16 _) _ 0 2 rfl rfl

theorem vtableBytes_entry (t : TableLayout) (id : Nat) (h : id < t.idEnd) :
    slice (vtableBytes t) (4 + 2 * id) 2 = le16 (vtEntryOf t id) := by
  have := slice_chunk ((List.range t.idEnd).map (fun id => le16 (vtEntryOf t id))) [] 2 (List.forall_mem_map.2 fun _ _ => rfl) id (by simpa using h)
  rw [List.append_nil, List.getElem_map, List.getElem_range] at this
  rw [vtableBytes_eq, ← this]
  exact slice_skip (le16 _ ++ le16 _) _ (2 * id) 2

theorem vtLookup_vtableBytes (t : TableLayout) (id : Nat) (h : id < t.idEnd) (hs : 2 * (t.idEnd + 2) < 65536) (he : vtEntryOf t id < 65536) :
    vtLookup (vtableBytes t) id = vtEntryOf t id := by
  unfold vtLookup
  rw [rd16_of_slice _ _ _ (vtableBytes_size t) hs, rd16_of_slice _ _ _ (vtableBytes_entry t id h) he]
  rw [if_pos (by omega)]

theorem vtLookup_beyond (t : TableLayout) (id : Nat) (h : t.idEnd ≤ id) (hs : 2 * (t.idEnd + 2) < 65536) :
    vtLookup (vtableBytes t) id = 0 := by
  unfold vtLookup
  rw [rd16_of_slice _ _ _ (vtableBytes_size t) hs, if_neg (by omega)]

theorem vtEntryOf_of_mem (t : TableLayout) (id e : Nat) (hm : (id, e) ∈ t.vs) (hn : (t.vs.map Prod.fst).Nodup) :
    vtEntryOf t id = e := by
  unfold vtEntryOf
  generalize t.vs = vs at hm hn
  induction vs with
  | nil => simp at hm
  | cons x xs ih =>
    simp only [List.map_cons, List.nodup_cons] at hn
    rcases List.mem_cons.mp hm with h | h
    · subst h; simp
    · have hne : x.1 ≠ id := by
        intro hx; apply hn.1; rw [hx]; exact List.mem_map.mpr ⟨(id, e), h, rfl⟩
      rw [List.find?_cons_of_neg (by simpa using hne)]
      exact ih h hn.2

theorem layoutStep_ids (t : TableLayout) (f : Nat × FieldVal) :
    (layoutStep t f).vs.map Prod.fst = t.vs.map Prod.fst ++ [f.1] ∧ (layoutStep t f).idEnd = max t.idEnd (f.1 + 1) := by
  unfold layoutStep
  split <;> simp only [List.map_append, List.map_cons, List.map_nil, and_self]

theorem layout_ids (fs : List (Nat × FieldVal)) :
    (layoutTable fs).vs.map Prod.fst = fs.map Prod.fst ∧ ∀ f ∈ fs, f.1 < (layoutTable fs).idEnd := by
  induction fs using layoutTable_induction with
  | nil => exact ⟨rfl, fun _ h => absurd h List.not_mem_nil⟩
  | snoc fs g ih =>
    obtain ⟨s1, s2⟩ := layoutStep_ids (layoutTable fs) g
    refine ⟨by rw [s1, ih.1, List.map_append]; rfl, fun f hf => ?_⟩
    rw [s2]
    rcases List.mem_append.mp hf with hf | hf
    · exact Nat.lt_of_lt_of_le (ih.2 f hf) (Nat.le_max_left ..)
    · cases List.mem_singleton.mp hf; exact Nat.le_max_right ..

theorem vtEntryOf_absent (t : TableLayout) (id : Nat) (h : id ∉ t.vs.map Prod.fst) : vtEntryOf t id = 0 := by
  unfold vtEntryOf
  have : t.vs.find? (fun e => e.1 == id) = none := by
    rw [List.find?_eq_none]; intro x hx hc
    exact h (List.mem_map.mpr ⟨x, hx, by simpa using hc⟩)
  rw [this]

theorem createTable_eq (s : BS) (t : TableLayout) (vtRef : Int) :
    createTable s t vtRef = emitFront (setMinAlign s (max t.align 4)) (tableImage s t vtRef) := by
  unfold createTable tableImage tableBase
  simp only [setMinAlign_frontPad, setMinAlign_start]

theorem tableImage_eq (s : BS) (t : TableLayout) (vtRef : Int) :
    tableImage s t vtRef = le32 (u32 (tableBase s t - (vtRef - 1))) ++ body (tableBase s t) t ++
      zeros (frontPad s t.data.length (max t.align 4)) := rfl

theorem tableImage_length (s : BS) (t : TableLayout) (vtRef : Int) (hob : OffsBound t) :
    (tableImage s t vtRef).length = 4 + t.data.length + frontPad s t.data.length (max t.align 4) := by
  rw [tableImage_eq]
  simp only [List.length_append, le32_length, zeros_length, body_length _ t hob]

theorem createTable_ref (s : BS) (t : TableLayout) (vtRef : Int) (hob : OffsBound t) :
    (createTable s t vtRef).2 = tableBase s t := by
  rw [createTable_eq, emitFront_ref, setMinAlign_start, tableImage_length _ _ _ hob]
  -- omega after push_cast is slow; the two lengths differ only in the order of the summands
  rw [Nat.add_comm 4, Nat.add_comm, ← Nat.add_assoc]
  rfl

theorem createTable_aligned (s : BS) (t : TableLayout) (vtRef : Int) (hob : OffsBound t) :
    ((createTable s t vtRef).2 + 4) % ((max t.align 4 : Nat) : Int) = 0 := by
  rw [createTable_eq]
  exact emitFront_aligned (setMinAlign s (max t.align 4)) _ 4 t.data.length (max t.align 4) (by omega)
    (by rw [tableImage_length _ _ _ hob, setMinAlign_frontPad])

theorem tableImage_head (s : BS) (t : TableLayout) (vtRef : Int) :
    rd32 (tableImage s t vtRef) 0 = u32 (tableBase s t - (vtRef - 1)) := by
  rw [tableImage_eq, List.append_assoc]
  exact rd32_head _ _ (u32_lt _)

theorem tableBase_le (s : BS) (t : TableLayout) : tableBase s t + 4 + t.data.length ≤ s.emitStart := by
  unfold tableBase; omega

theorem tableImage_field (s : BS) (t : TableLayout) (vtRef : Int) (p : Nat) (v : FieldVal) (hob : OffsBound t)
    (h : FieldAt t p v) : slice (tableImage s t vtRef) (p + 4) (fieldSize v) = fieldBytes (tableBase s t) p v := by
  rw [tableImage_eq, List.append_assoc, Nat.add_comm p 4]
  refine (slice_skip (le32 _) _ p _).trans ?_
  rw [slice_append_left _ _ _ _ (by rw [body_length _ t hob]; exact h.2.1)]
  exact h.2.2 (tableBase s t)

theorem field_addr_aligned (s : BS) (t : TableLayout) (vtRef : Int) (p : Nat) (v : FieldVal) (hob : OffsBound t)
    (h : FieldAt t p v) (hd : fieldAlign v ∣ max t.align 4) :
    ((createTable s t vtRef).2 + (p + 4 : Nat)) % (fieldAlign v : Int) = 0 := by
  have h1 : (fieldAlign v : Int) ∣ (createTable s t vtRef).2 + 4 :=
    Int.dvd_trans (Int.natCast_dvd_natCast.mpr hd) (Int.dvd_of_emod_eq_zero (createTable_aligned s t vtRef hob))
  have h2 : (fieldAlign v : Int) ∣ (p : Int) := Int.natCast_dvd_natCast.mpr (Nat.dvd_of_mod_eq_zero h.1)
  rw [Int.natCast_add, Int.add_left_comm]
  exact Int.emod_eq_zero_of_dvd (Int.dvd_add h2 h1)

theorem pow2_max {a b : Nat} (ha : ∃ k, a = 2 ^ k) (hb : ∃ k, b = 2 ^ k) : ∃ k, max a b = 2 ^ k := by
  rw [Nat.max_def]; split <;> assumption

theorem pow2_dvd {a b : Nat} (ha : ∃ k, a = 2 ^ k) (hb : ∃ k, b = 2 ^ k) (h : a ≤ b) : a ∣ b := by
  obtain ⟨i, rfl⟩ := ha
  obtain ⟨j, rfl⟩ := hb
  exact Nat.pow_dvd_pow 2 ((Nat.pow_le_pow_iff_right (by omega)).mp h)

/-- the frame's alignment is the largest among 4 (an offset field needs it) and the fields' own -/
theorem layout_align (fs : List (Nat × FieldVal)) (hp : ∀ f ∈ fs, ∃ k, fieldAlign f.2 = 2 ^ k) :
    (∃ k, (layoutTable fs).align = 2 ^ k) ∧ 4 ≤ (layoutTable fs).align ∧ ∀ f ∈ fs, fieldAlign f.2 ≤ (layoutTable fs).align := by
  induction fs using layoutTable_induction with
  | nil => exact ⟨⟨2, rfl⟩, Nat.le_refl _, fun _ h => absurd h List.not_mem_nil⟩
  | snoc fs g ih =>
    obtain ⟨h2, h4, hle⟩ := ih (fun f hf => hp f (List.mem_append_left _ hf))
    have ha : (layoutStep (layoutTable fs) g).align = max (layoutTable fs).align (fieldAlign g.2) := by
      obtain ⟨id, v⟩ := g
      cases v with
      | inl sz a b => rfl
      | off r => exact (Nat.max_eq_left h4).symm
    rw [ha]
    refine ⟨pow2_max h2 (hp g (List.mem_append_right _ (List.mem_singleton.mpr rfl))),
      Nat.le_trans h4 (Nat.le_max_left _ _), fun f hf => ?_⟩
    rcases List.mem_append.mp hf with hf | hf
    · exact Nat.le_trans (hle f hf) (Nat.le_max_left _ _)
    · cases List.mem_singleton.mp hf
      exact Nat.le_max_right _ _

end Flatcc.Builder
