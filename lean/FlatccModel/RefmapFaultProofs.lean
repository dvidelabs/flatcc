import FlatccModel.RefmapProofs
/-! A call under a refusing allocator is the fault-free call of its effective operation, or a refused `resize` that changes
nothing (`stepF_cases`); the refinement for every history and refusal schedule follows from the fault-free one. -/
namespace Flatcc.Refmap

theorem stepF_true (hash : Nat → Nat) (m : Map) (op : Op) : stepF hash m op true = step hash m op := if_pos rfl

theorem effective_true (m : Map) (op : Op) : effective m op true = op := if_pos rfl

theorem resizeF_atomic (hash : Nat → Nat) (m : Map) (n : Nat) (h : (resizeF hash m n).2 ≠ 0) :
    (resizeF hash m n).1 = m ∧ (resizeF hash m n).2 = -1 := by
  unfold resizeF at h ⊢
  split
  · exact ⟨rfl, rfl⟩
  · next hn => simp [hn] at h

theorem insertF_cases (hash : Nat → Nat) (m : Map) (s : Nat) (r : Int) :
    (effective m (.ins s r) false = .fnd s ∧ stepF hash m (.ins s r) false = (m, 0)) ∨
    (effective m (.ins s r) false = .ins s r ∧ stepF hash m (.ins s r) false = step hash m (.ins s r)) := by
  dsimp only [effective, stepF, step, insertF]
  by_cases hs : s = 0
  · right; simp [insert, hs]
  by_cases ha : aboveLoad m.count m.rm.buckets = true
  · by_cases hn : needsAlloc m (m.count * 2) = true
    · left; simp [hs, ha, hn]
    · right; simp [hs, ha, hn]
  · right; simp [hs, ha]

theorem stepF_cases (hash : Nat → Nat) (m : Map) (op : Op) (ok : Bool) :
    (stepF hash m op ok).1 = (step hash m (effective m op ok)).1 ∨
    ((stepF hash m op ok).1 = m ∧ ∃ n, effective m op ok = .rsz n) := by
  cases ok with
  | true => rw [stepF_true, effective_true]; exact Or.inl rfl
  | false =>
    cases op with
    | ins s r =>
      rcases insertF_cases hash m s r with ⟨he, hst⟩ | ⟨he, hst⟩
      · rw [hst, he]; exact Or.inl rfl
      · rw [hst, he]; exact Or.inl rfl
    | rsz n =>
      show (resizeF hash m n).1 = resize hash m n ∨ ((resizeF hash m n).1 = m ∧ ∃ n', Op.rsz n = .rsz n')
      unfold resizeF
      split
      · exact Or.inr ⟨rfl, n, rfl⟩
      · exact Or.inl rfl
    | fnd s => exact Or.inl rfl
    | rst => exact Or.inl rfl
    | clr => exact Or.inl rfl

theorem stepF_spec (hash : Nat → Nat) (m : Map) (op : Op) (ok : Bool) (rest : List Op) (G : Good hash m)
    (h : ∀ k, find' hash m k = spec rest k) :
    Good hash (stepF hash m op ok).1 ∧ ∀ k, find' hash (stepF hash m op ok).1 k = spec (effective m op ok :: rest) k := by
  rcases stepF_cases hash m op ok with e | ⟨e, n, hn⟩
  · rw [e]; exact step_spec hash m _ rest G h
  · -- `resize` does not change the abstract map
    rw [e, hn]; exact ⟨G, h⟩

end Flatcc.Refmap
