/-! The heap sort generated into every reader (`__heap_sift_down`, `__heap_sort`, codegen_c_sort.c). -/
namespace Flatcc.Sort

variable {α : Type} [Inhabited α]

/-- the child `__heap_sift_down` compares the root with: `c0 + 1` if it is within `end_` and holds the larger key, else `c0` -/
def pickChild (lt : α → α → Bool) (a : Array α) (c0 end_ : Nat) : Nat :=
  if c0 < end_ && lt a[c0]! a[c0+1]! then c0 + 1 else c0

/-- `__heap_sift_down(vec, root, end_)`: the children of `root` are `2 * root` and `2 * root + 1` (so root 0 has the single
child 1). The C loop runs while `2 * root ≤ end_`, and a round that does not return moves `root` to the chosen child, a
larger index when `lt` is irreflexive: `end_ + 1 - root` rounds suffice, the callers pass `end_ + 2`. -/
def siftDown (lt : α → α → Bool) (a : Array α) (root end_ : Nat) : Nat → Array α
  | 0 => a
  | fuel+1 =>
    if 2 * root ≤ end_ then
      if lt a[root]! a[pickChild lt a (2 * root) end_]! then
        siftDown lt (a.swapIfInBounds root (pickChild lt a (2 * root) end_)) (pickChild lt a (2 * root) end_) end_ fuel
      else a
    else a

/-- `start = size >> 1; do { sift_down(vec, start, end); } while (start--);` -/
def heapify (lt : α → α → Bool) (a : Array α) (end_ : Nat) : Nat → Array α
  | 0 => siftDown lt a 0 end_ (end_ + 2)
  | s+1 => heapify lt (siftDown lt a (s+1) end_ (end_ + 2)) end_ s

/-- `while (end > 0) { swap(vec, 0, end); sift_down(vec, 0, --end); }` -/
def sortLoop (lt : α → α → Bool) (a : Array α) : Nat → Array α
  | 0 => a
  | e+1 => sortLoop lt (siftDown lt (a.swapIfInBounds 0 (e+1)) 0 e (e + 2)) e

/-- `__heap_sort(vec)` -/
def heapSort (lt : α → α → Bool) (a : Array α) : Array α :=
  if a.size = 0 then a else
  let e := a.size - 1
  sortLoop lt (heapify lt a e (a.size / 2)) e

/-- What the sortedness proof asks of `lt x y` = `D(x, y) < 0`. `ntrans` (negative transitivity: being not below is
transitive) is the only demand beyond a strict partial order; it makes incomparable keys interchangeable. -/
structure StrictWeak (lt : α → α → Bool) : Prop where
  irrefl : ∀ x, lt x x = false
  trans : ∀ x y z, lt x y = true → lt y z = true → lt x z = true
  ntrans : ∀ x y z, lt x y = false → lt y z = false → lt x z = false

end Flatcc.Sort
