import FlatccModel.SchemaNum
import FlatccModel.NumProofs
/-! `coerce` to an integer type is the range check of `range` on the integer a value stands for (`coerce_of_normInt`;
`coerce_uint`, `coerce_int`, `acceptLit_iff` are instances). `readLit_dec` / `toI64_neg`: what a decimal literal reads as.
`enumValues_auto_head` / `enumFlagValues_head`: the one successful path through a step of either enum numbering.
`validAlign_small`: `is_valid_align` as a finite table. -/
namespace Flatcc.SchemaNum
open Flatcc.Num

/-- `normInt`'s normal form of the integer `x` -/
def ofInt (x : Int) : Val := if 0 ≤ x then .uint x.toNat else .int x

theorem ofInt_eq (x : Int) : (∃ u : Nat, x = u ∧ ofInt x = .uint u) ∨ (x < 0 ∧ ofInt x = .int x) := by
  unfold ofInt
  split
  · exact .inl ⟨x.toNat, (Int.toNat_of_nonneg ‹_›).symm, rfl⟩
  · exact .inr ⟨Int.not_le.1 ‹_›, rfl⟩

theorem normInt_uint (u : Nat) : normInt (.uint u) = ofInt u := by
  simp [ofInt, normInt]

theorem unsignedT_ofInt (hi : Nat) (x w : Int) :
    (unsignedT hi (ofInt x)).bind valInt = some w ↔ (0 ≤ x ∧ x ≤ hi) ∧ w = x := by
  rcases ofInt_eq x with ⟨u, rfl, h⟩ | ⟨hx, h⟩
  · simp only [h, unsignedT]
    split
    -- refused: the left side is `none = some w`, the right side contradicts the failed test;
    -- accepted: the bound holds, and `some ↑u = some w` is `w = ↑u`. The same in the two lemmas below.
    · exact ⟨nofun, by omega⟩
    · rw [and_iff_right (by omega)]
      exact Option.some_inj.trans eq_comm
  · rw [h]
    exact ⟨nofun, by omega⟩

theorem signedT_ofInt (lo hi : Nat) (x w : Int) :
    (signedT (-lo) hi (ofInt x)).bind valInt = some w ↔ (-(lo : Int) ≤ x ∧ x ≤ hi) ∧ w = x := by
  rcases ofInt_eq x with ⟨u, rfl, h⟩ | ⟨hx, h⟩
  all_goals
    simp only [h, signedT]
    split
    · exact ⟨nofun, by omega⟩
    · rw [and_iff_right (by omega)]
      exact Option.some_inj.trans eq_comm

theorem longT_ofInt (x w : Int) (hlo : -9223372036854775808 ≤ x) :
    (longT (ofInt x)).bind valInt = some w ↔ Representable .long x ∧ w = x := by
  simp only [Representable, range]
  rcases ofInt_eq x with ⟨u, rfl, h⟩ | ⟨hx, h⟩
  · simp only [h, longT]
    split
    · exact ⟨nofun, by omega⟩
    · rw [and_iff_right (by omega)]
      exact Option.some_inj.trans eq_comm
  · rw [h, and_iff_right ⟨hlo, by omega⟩]
    exact Option.some_inj.trans eq_comm

/-- `fb_coerce_scalar_type` to an integer type is the range check of `range` and changes nothing. The `long` case of the C code
has no lower test: hence `hlo`, true of every `int64_t`. -/
theorem coerce_of_normInt (st : STy) (hst : st ≠ .bool) {v : Val} {x : Int} (hv : normInt v = ofInt x)
    (hlo : -9223372036854775808 ≤ x) (w : Int) :
    (coerce false st v).bind valInt = some w ↔ Representable st x ∧ w = x := by
  unfold coerce
  rw [hv, show normBool false st (ofInt x) = ofInt x by unfold ofInt; split <;> rfl]
  -- the bounds in `coerce` are those of `range`: each line checks that by unfolding both
  cases st with
  | ubyte | ushort | uint | ulong => exact unsignedT_ofInt _ x w
  | byte | short | int => exact signedT_ofInt _ _ x w
  | long => exact longT_ofInt x w hlo
  | bool => exact absurd rfl hst

theorem coerce_uint (st : STy) (hst : st ≠ .bool) (u : Nat) (w : Int) :
    (coerce false st (.uint u)).bind valInt = some w ↔ Representable st u ∧ w = u :=
  coerce_of_normInt st hst (normInt_uint u) (by omega) w

theorem coerce_int (st : STy) (hst : st ≠ .bool) (i : Int) (hlo : -9223372036854775808 ≤ i) (w : Int) :
    (coerce false st (.int i)).bind valInt = some w ↔ Representable st i ∧ w = i :=
  coerce_of_normInt st hst rfl hlo w

theorem acceptLit_iff (st : STy) (hst : st ≠ .bool) {l : Lit} {v : Val} {x : Int} (hr : readLit l = v)
    (hv : normInt v = ofInt x) (hlo : -9223372036854775808 ≤ x) (w : Int) :
    acceptLit false st l = some w ↔ Representable st x ∧ w = x := by
  unfold acceptLit
  rw [hr]
  cases v with
  | invalid =>
    unfold ofInt at hv
    split at hv <;> cases hv
  | _ => exact coerce_of_normInt st hst hv hlo w

theorem readLit_dec (neg : Bool) (ds : List Nat) (hd : AllDigits ds) (hne : ds ≠ []) :
    readLit (.dec neg ds) =
      if decval ds < 18446744073709551616 then
        (if neg then .int (toI64 ((18446744073709551616 - decval ds) % 18446744073709551616)) else .uint (decval ds))
      else .invalid := by
  obtain ⟨c, h⟩ := digitLoop_digits ds hd [] nofun
  rw [List.append_nil] at h
  simp only [readLit, h]
  by_cases h1 : decval ds < 18446744073709551616 <;> simp [h1, hne]

theorem toI64_neg (d : Nat) (hd : d ≤ 9223372036854775808) :
    toI64 ((18446744073709551616 - d) % 18446744073709551616) = -(d : Int) := by
  unfold toI64
  cases d with
  | zero => rfl
  | succ d =>
    -- `2^64 - (d + 1)` is below `2^64` and, as `d + 1 ≤ 2^63`, not below `2^63`: read back signed it is that minus `2^64`.
    -- (`omega` does it in one step, slowly, because of the `%`.)
    rw [Nat.mod_eq_of_lt (Nat.sub_lt (by decide) (Nat.succ_pos _)),
      if_neg (Nat.not_lt.2 (Nat.le_sub_of_add_le (Nat.add_le_add_left hd _)))]
    omega

/-- the index `process_enum` gives a member without initializer: the inner `match` of `enumValues` and of `enumFlagValues`,
word for word (`enumValues_auto_head` relies on that) -/
def autoIdx (st : STy) : Option Val → Option Val
  | none => some (.int 0)
  | some (.uint u) => if st = .ulong ∧ u = 18446744073709551615 then none else some (.uint (u + 1))
  | some (.int i) => if st = .long ∧ i = 9223372036854775807 then none else some (.int (i + 1))
  | some (.bool b) => if b then none else some (.bool true)
  | some .invalid => none

theorem autoIdx_uint {st : STy} {u : Nat} {v : Val} (h : autoIdx st (some (.uint u)) = some v) : v = .uint (u + 1) := by
  simp only [autoIdx] at h
  split at h
  · contradiction
  · exact (Option.some.inj h).symm

theorem autoIdx_int {st : STy} {j : Int} {v : Val} (h : autoIdx st (some (.int j)) = some v) : v = .int (j + 1) := by
  simp only [autoIdx] at h
  split at h
  · contradiction
  · exact (Option.some.inj h).symm

/-- the walk follows the one path of `enumValues` that ends in `some` -/
theorem enumValues_auto_head {st : STy} {prev : Option Val} {rest : List (Option Val)} {i : Int} {r : List Int}
    (h : enumValues st prev (none :: rest) = some (i :: r)) :
    ∃ v, autoIdx st prev = some v ∧ (coerce false st v).bind valInt = some i := by
  unfold enumValues at h  -- `simp only [enumValues]` does both steps but is slow
  dsimp only at h
  split at h
  · contradiction
  next v hv =>  -- `hv` speaks of the inner match of `enumValues`, which `autoIdx` repeats word for word
  split at h
  · contradiction
  next v' hc =>
  split at h
  · next i' _ hi _ =>
    cases h
    exact ⟨v, hv, hc ▸ hi⟩
  · contradiction

theorem enumFlagValues_head {st : STy} {prev m : Option Val} {rest : List (Option Val)} {vs : List Int}
    (h : enumFlagValues st prev (m :: rest) = some vs) :
    ∃ v i r, vs = i :: r ∧ valU v < bitsOf st ∧ (coerce false st (.uint (2 ^ valU v))).bind valInt = some i ∧
      enumFlagValues st (some v) rest = some r := by
  unfold enumFlagValues at h
  dsimp only at h
  split at h
  · contradiction
  next v _ =>
  split at h
  · contradiction
  next hlt =>
  split at h
  · contradiction
  next v' hc =>
  split at h
  · next i r hi hr =>
    cases h
    exact ⟨v, i, r, rfl, Nat.lt_of_not_le hlt, hc ▸ hi, hr⟩
  · contradiction

/-- the permitted alignments: the powers of two up to `FLATCC_FORCE_ALIGN_MAX` (regenerated from config.h: 256) -/
def alignValues : List Nat := [1, 2, 4, 8, 16, 32, 64, 128, 256]

/-- the finite table, evaluated by the kernel: it stops checking if the regenerated `forceAlignMax` is no longer 256 -/
theorem validAlign_small : ∀ a, a ≤ 256 → (isValidAlign a = true ↔ a ∈ alignValues) := by decide +kernel

theorem isValidAlign_le {a : Nat} (h : isValidAlign a = true) : a ≤ Flatcc.Consts.forceAlignMax := by
  unfold isValidAlign at h
  split at h
  · contradiction
  · omega

end Flatcc.SchemaNum
