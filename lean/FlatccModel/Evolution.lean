import FlatccModel.VerifierSeq
/-!
# Schema evolution (C09): the old schema's verifier accepts whatever the new schema's verifier accepts

`Extends A B`: `B` was obtained from `A` by the permitted evolutions that only *add* — new table
fields (new calls in a table's list), new union members (new codes), new tables/unions appended.
Positions (table / union indices) are shared.
-/
namespace Flatcc.Verifier

structure Extends (A B : Schema) : Prop where
  fields : ∀ t f, f ∈ A.table t → f ∈ B.table t
  members : ∀ u ty m, lookupMember (A.union u) ty = some m → lookupMember (B.union u) ty = some m

/-- the old schema's table verifier accepts what the new one's accepts, at the same fuel -/
def TableMono (A B : Schema) (c : Ctx) (fuel : Nat) : Prop :=
  ∀ base offset ttl t, verifyTable B c fuel base offset ttl t = .ok () → verifyTable A c fuel base offset ttl t = .ok ()

theorem member_mono {A B : Schema} (E : Extends A B) (c : Ctx) (fuel : Nat) (IH : TableMono A B c fuel)
    (u ty b o : Nat) (ttl : Int)
    (h : verifyMember B c fuel b o ttl (lookupMember (B.union u) ty) = .ok ()) :
    verifyMember A c fuel b o ttl (lookupMember (A.union u) ty) = .ok () := by
  cases hA : lookupMember (A.union u) ty with
  | none => unfold verifyMember; rfl
  | some m =>
    rw [E.members u ty m hA] at h
    cases m with
    | table t => unfold verifyMember at h ⊢; exact IH _ _ _ _ h
    | struct s a => unfold verifyMember at h ⊢; exact h
    | string => unfold verifyMember at h ⊢; exact h

theorem seqRel_mono : SeqRel fun x y => x = .ok () → y = .ok () where
  refl _ h := h
  after _ hk h := bind_mono hk h
  seq h12 hk h := by
    obtain ⟨_, h1, h2⟩ := bind_ok h
    rw [h12 h1]
    exact hk h2

theorem kind_mono {A B : Schema} (E : Extends A B) (c : Ctx) (fuel : Nat) (IHall : ∀ c, TableMono A B c fuel) (td : TD) (f : Field)
    (h : verifyKind B c fuel td f = .ok ()) : verifyKind A c fuel td f = .ok () :=
  kind_rel seqRel_mono td f (fun c' b o ttl t _ => IHall c' b o ttl t)
    (fun u ty b o ttl _ => member_mono E c fuel (IHall c) u ty b o ttl) h

theorem table_mono {A B : Schema} (E : Extends A B) : ∀ fuel c, TableMono A B c fuel := by
  intro fuel
  induction fuel with
  | zero => intro c base offset ttl t h; rw [verifyTable] at h; cases h
  | succ fuel ih =>
    intro c base offset ttl t h
    rw [verifyTable_succ] at h ⊢
    refine bind_mono (fun _ h => ?_) h
    refine bind_mono (fun d h => ?_) h
    rw [fields_all] at h ⊢
    exact fun f hf => kind_mono E c fuel ih _ f (h f (E.fields t f hf))

end Flatcc.Verifier
