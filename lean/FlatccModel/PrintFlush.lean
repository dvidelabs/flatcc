/-!
# JSON printer output layer (`json_printer.c`: `print`, `print_ex`, `print_indent(_ex)`, raw `print_char`
writes, `flatcc_json_printer_flush_partial`, and the three flush functions)

`buf` is the content of the output buffer `[buf, p)`; `out` what the file mode has already written.
Raw writes (`print_char`, number formatting into `ctx->p`) are not checked by the C code; the model
records the high-water mark `hi` of `p` so that "never writes outside the buffer" is a statement
about `hi ≤ size`.
-/
namespace Flatcc.PrintFlush

inductive Mode | file | fixed | dynamic
  deriving DecidableEq, Repr

structure Pr where
  mode : Mode
  size : Nat
  flushSize : Nat
  buf : List Nat
  out : List Nat
  total : Nat
  overflow : Bool
  hi : Nat
  deriving Repr

def reserve : Nat := 64

def initFixed (size : Nat) : Pr :=
  { mode := .fixed, size := size, flushSize := size - reserve, buf := [], out := [], total := 0, overflow := false, hi := 0 }
def initDynamic (size : Nat) : Pr :=
  let size := if size = 0 then 4096 else if size < reserve then reserve else size
  { mode := .dynamic, size := size, flushSize := size - reserve, buf := [], out := [], total := 0, overflow := false, hi := 0 }
def initFile : Pr :=
  { mode := .file, size := 16384 + reserve, flushSize := 16384, buf := [], out := [], total := 0, overflow := false, hi := 0 }

/-- `ctx->flush(ctx, all)` -/
def flush (s : Pr) (all : Bool) : Pr :=
  match s.mode with
  | .file =>
    if !all && decide (s.buf.length ≥ s.flushSize) then
      { s with out := s.out ++ s.buf.take s.flushSize, buf := s.buf.drop s.flushSize, total := s.total + s.flushSize }
    else { s with out := s.out ++ s.buf, buf := [], total := s.total + s.buf.length }
  | .fixed =>
    if s.buf.length ≥ s.flushSize then { s with overflow := true, total := s.total + s.buf.length, buf := [] } else s
  | .dynamic =>
    if s.buf.length < s.flushSize then s else { s with size := s.size * 2, flushSize := s.size * 2 - reserve }

/-- an unchecked write of `d` at `p` -/
def raw (s : Pr) (d : List Nat) : Pr :=
  { s with buf := s.buf ++ d, hi := max s.hi (s.buf.length + d.length) }

/-- the splitting loop of `print_ex` (after the initial flush test) -/
def printExLoop : Nat → Pr → List Nat → Pr
  | 0, s, _ => s
  | fuel+1, s, d =>
    let k := s.flushSize - s.buf.length
    if d.length > k then printExLoop fuel (flush (raw s (d.take k)) false) (d.drop k)
    else raw s d

def printEx (s : Pr) (d : List Nat) : Pr :=
  let s := if s.buf.length ≥ s.flushSize then flush s false else s
  if s.flushSize = 0 then s     -- a fixed buffer no larger than the reserve: give up (overflow has been raised)
  else printExLoop (2 * d.length + 2) s d

/-- `print(ctx, s, n)` -/
def print (s : Pr) (d : List Nat) : Pr :=
  if s.buf.length + d.length ≥ s.flushSize then printEx s d else raw s d

/-- `flatcc_json_printer_flush_partial` -/
def flushPartial (s : Pr) : Pr := if s.buf.length ≥ s.flushSize then flush s false else s

/-- what the API can do to the output layer -/
inductive Ev
  | raw (d : List Nat)        -- print_char / in-place number formatting
  | print (d : List Nat)      -- print / flatcc_json_printer_write
  | indent (n : Nat)          -- print_indent: n spaces, checked
  | fpartial                  -- flush_partial
  | flushAll                  -- flatcc_json_printer_flush
  deriving Repr

def stepEv (s : Pr) : Ev → Pr
  | .raw d => raw s d
  | .print d => print s d
  | .indent n => if s.buf.length + n > s.flushSize then printEx s (List.replicate n 32) else raw s (List.replicate n 32)
  | .fpartial => flushPartial s
  | .flushAll => flush s true

def evBytes : Ev → List Nat
  | .raw d => d
  | .print d => d
  | .indent n => List.replicate n 32
  | _ => []

/-- everything printed so far, in order (file: already written ++ buffered) -/
def text (s : Pr) : List Nat := s.out ++ s.buf

end Flatcc.PrintFlush
