import FlatccModel.RefmapCore
import FlatccModel.ArrayLemmas
/-! The probe core under `Inv`: the probe sequence visits every slot once, so the loop ends at the least offset where it
may stop; from that, what `find` returns and what the store of `insert` does to invariant and content. -/
namespace Flatcc.Refmap

theorem probe_surj (k N j : Nat) (hN : 0 < N) (hj : j < N) : ∃ i, i < N ∧ (k + i) % N = j := by
  -- `k + (j + N - k % N) ≡ k % N + (j + N - k % N) = j + N ≡ j (mod N)`
  refine ⟨(j + N - k % N) % N, Nat.mod_lt _ hN, ?_⟩
  have hle : k % N ≤ j + N := Nat.le_trans (Nat.le_of_lt (Nat.mod_lt _ hN)) (Nat.le_add_left N j)
  rw [Nat.add_mod_mod, Nat.add_mod, Nat.add_mod_mod, Nat.add_sub_cancel' hle, Nat.add_mod_right, Nat.mod_eq_of_lt hj]

/-- the difference of the two offsets is a multiple of `N` below `N` -/
theorem probe_inj_le (k N i1 i2 : Nat) (hle : i1 ≤ i2) (h2 : i2 < N) (h : (k + i1) % N = (k + i2) % N) : i1 = i2 := by
  have hd : (k + i2 - (k + i1)) % N = 0 := Nat.sub_mod_eq_zero_of_mod_eq h.symm
  rw [Nat.add_sub_add_left, Nat.mod_eq_of_lt (Nat.lt_of_le_of_lt (Nat.sub_le _ _) h2)] at hd
  exact Nat.le_antisymm hle (Nat.le_of_sub_eq_zero hd)

theorem probe_inj (k N i1 i2 : Nat) (h1 : i1 < N) (h2 : i2 < N) (h : (k + i1) % N = (k + i2) % N) : i1 = i2 := by
  rcases Nat.le_total i1 i2 with hle | hle
  · exact probe_inj_le k N i1 i2 hle h2 h
  · exact (probe_inj_le k N i2 i1 hle h1 h.symm).symm

/-- the loop test at offset `i`. `walk_least`: the loop returns the slot at the least offset where `stop` holds, if there
is one within the fuel; `walk_end`: with an empty slot somewhere there is one within one round from the home slot. -/
def stop (s : RM) (k src i : Nat) : Prop :=
  srcAt s ((k + i) % s.buckets) = 0 ∨ srcAt s ((k + i) % s.buckets) = src

theorem walk_least (s : RM) (k src : Nat) :
    ∀ (fuel i : Nat), (∃ m, i ≤ m ∧ m < i + fuel ∧ stop s k src m) →
      ∃ i0, i ≤ i0 ∧ i0 < i + fuel ∧ walk s k src i fuel = (k + i0) % s.buckets ∧ stop s k src i0 ∧
        ∀ i', i ≤ i' → i' < i0 → ¬ stop s k src i' := by
  intro fuel
  induction fuel with
  | zero => rintro i ⟨m, h1, h2, _⟩; exact absurd h2 (Nat.not_lt.2 h1)
  | succ fuel ih =>
    rintro i ⟨m, hm1, hm2, hm3⟩
    unfold walk
    by_cases hs : stop s k src i
    · refine ⟨i, Nat.le_refl _, Nat.lt_add_of_pos_right (Nat.succ_pos _), ?_, hs,
        fun i' h1 h2 => absurd h2 (Nat.not_lt.2 h1)⟩
      rcases hs with h0 | h1
      · rw [if_pos h0]
      · rw [if_pos h1, ite_self]
    · rw [if_neg (fun h => hs (Or.inl h)), if_neg (fun h => hs (Or.inr h))]
      -- the loop goes on at `i + 1` with the rest of the window: `i + 1 + fuel` is `i + (fuel + 1)`
      have hwin : i + 1 + fuel = i + (fuel + 1) := Nat.add_right_comm i 1 fuel
      have him : i + 1 ≤ m := Nat.lt_of_le_of_ne hm1 (fun e => hs (e ▸ hm3))
      obtain ⟨i0, a1, a2, a3, a4, a5⟩ := ih (i + 1) ⟨m, him, hwin ▸ hm2, hm3⟩
      refine ⟨i0, Nat.le_of_succ_le a1, hwin ▸ a2, a3, a4, fun i' b1 b2 => ?_⟩
      by_cases e : i' = i
      · exact e ▸ hs
      · exact a5 i' (Nat.lt_of_le_of_ne b1 (Ne.symm e)) b2

theorem walk_end (s : RM) (hpos : 0 < s.buckets) (hempty : ∃ e, e < s.buckets ∧ srcAt s e = 0) (k src : Nat) :
    ∃ i0, i0 < s.buckets ∧ walk s k src 0 s.buckets = (k + i0) % s.buckets ∧ stop s k src i0 ∧
      ∀ i', i' < i0 → ¬ stop s k src i' := by
  obtain ⟨e, he, hee⟩ := hempty
  obtain ⟨i, hi, hie⟩ := probe_surj k s.buckets e hpos he
  have hstop : stop s k src i := Or.inl (by rw [hie]; exact hee)
  obtain ⟨i0, _, a2, a3, a4, a5⟩ := walk_least s k src s.buckets 0 ⟨i, Nat.zero_le _, Nat.zero_add _ ▸ hi, hstop⟩
  exact ⟨i0, Nat.lt_of_lt_of_eq a2 (Nat.zero_add _), a3, a4, fun i' h => a5 i' (Nat.zero_le _) h⟩

/-- where the probe for `src` ends: at offset `i0` after occupied slots only, in the slot that holds `src`, or in an empty
slot when no slot holds `src` -/
theorem walk_spec (hash : Nat → Nat) (s : RM) (I : Inv hash s) (src : Nat) :
    ∃ i0, i0 < s.buckets ∧ walk s (hash src) src 0 s.buckets = (hash src + i0) % s.buckets ∧
      (∀ i', i' < i0 → srcAt s ((hash src + i') % s.buckets) ≠ 0) ∧
      (srcAt s ((hash src + i0) % s.buckets) = src ∨
        srcAt s ((hash src + i0) % s.buckets) = 0 ∧ ∀ t, t < s.buckets → srcAt s t ≠ src) := by
  obtain ⟨i0, hi0, hw, hs, hleast⟩ := walk_end s I.pos I.empty (hash src) src
  refine ⟨i0, hi0, hw, fun i' hi' h0 => hleast i' hi' (Or.inl h0), ?_⟩
  by_cases hk : srcAt s ((hash src + i0) % s.buckets) = src
  · exact Or.inl hk
  have h0 : srcAt s ((hash src + i0) % s.buckets) = 0 := hs.resolve_right hk
  refine Or.inr ⟨h0, fun t ht hts => ?_⟩
  -- a slot `t` holding `src` is at some offset `i` of the path: not before `i0`, where the loop goes on; not behind the
  -- empty slot at `i0` (`path`)
  obtain ⟨i, hi, hit⟩ := probe_surj (hash src) s.buckets t I.pos ht
  subst hts
  rcases Nat.lt_trichotomy i i0 with hlt | e | hgt
  · exact hleast i hlt (Or.inr (by rw [hit]))
  · exact hk (by rw [← e, hit])
  · exact I.path t i ht (fun e => hk (h0.trans e.symm)) hi hit i0 hgt h0

theorem walk_lt (hash : Nat → Nat) (s : RM) (I : Inv hash s) (k src : Nat) : walk s k src 0 s.buckets < s.buckets := by
  obtain ⟨i0, _, hw, _⟩ := walk_end s I.pos I.empty k src
  rw [hw]; exact Nat.mod_lt _ I.pos

theorem walk_found (hash : Nat → Nat) (s : RM) (I : Inv hash s) (t : Nat) (ht : t < s.buckets)
    (hne : srcAt s t ≠ 0) : walk s (hash (srcAt s t)) (srcAt s t) 0 s.buckets = t := by
  obtain ⟨i0, _, hw, _, h | ⟨_, habs⟩⟩ := walk_spec hash s I (srcAt s t)
  · rw [hw]; exact I.nodup _ t (Nat.mod_lt _ I.pos) ht (by rw [h]; exact hne) h
  · exact absurd rfl (habs t ht)

theorem find_present (hash : Nat → Nat) (s : RM) (I : Inv hash s) (t : Nat) (ht : t < s.buckets)
    (hne : srcAt s t ≠ 0) : find hash s (srcAt s t) = refAt s t := by
  unfold find
  simp only [walk_found hash s I t ht hne, hne, if_false]

theorem find_of_slot (hash : Nat → Nat) (s : RM) (I : Inv hash s) (t : Nat) (ht : t < s.buckets) (k : Nat)
    (hk : k ≠ 0) (h : srcAt s t = k) : find hash s k = refAt s t := by
  subst h; exact find_present hash s I t ht hk

/-- not found: no slot holds `k`, or `k` is 0, the mark of an empty slot -/
theorem find_none (hash : Nat → Nat) (s : RM) (I : Inv hash s) (k : Nat)
    (h : ∀ t, t < s.buckets → srcAt s t = k → k = 0) : find hash s k = 0 := by
  obtain ⟨i0, _, hw, _, hs⟩ := walk_spec hash s I k
  unfold find
  simp only [hw]
  rcases hs with hk | ⟨h0, _⟩
  · rw [if_pos (hk.trans (h _ (Nat.mod_lt _ I.pos) hk))]
  · rw [if_pos h0]

theorem find_absent (hash : Nat → Nat) (s : RM) (I : Inv hash s) (src : Nat)
    (habs : ∀ t, t < s.buckets → srcAt s t ≠ src) : find hash s src = 0 :=
  find_none hash s I src (fun t ht e => absurd e (habs t ht))

theorem walk_cases (hash : Nat → Nat) (s : RM) (I : Inv hash s) (src : Nat) :
    srcAt s (walk s (hash src) src 0 s.buckets) = src ∨
    (srcAt s (walk s (hash src) src 0 s.buckets) = 0 ∧ ∀ t, t < s.buckets → srcAt s t ≠ src) := by
  obtain ⟨i0, _, hw, _, h⟩ := walk_spec hash s I src
  rw [hw]; exact h

theorem srcAt_insertCore (hash : Nat → Nat) (s : RM) (I : Inv hash s) (src : Nat) (ref : Int) (k : Nat) :
    srcAt (insertCore hash s src ref) k =
      if k = walk s (hash src) src 0 s.buckets then src else srcAt s k := by
  unfold insertCore srcAt
  rw [getElem!_setIfInBounds _ _ _ _ (by rw [I.size]; exact walk_lt hash s I _ _)]
  split <;> rfl

theorem refAt_insertCore (hash : Nat → Nat) (s : RM) (I : Inv hash s) (src : Nat) (ref : Int) (k : Nat) :
    refAt (insertCore hash s src ref) k =
      if k = walk s (hash src) src 0 s.buckets then ref else refAt s k := by
  unfold insertCore refAt
  rw [getElem!_setIfInBounds _ _ _ _ (by rw [I.size]; exact walk_lt hash s I _ _)]
  split <;> rfl

theorem buckets_insertCore (hash : Nat → Nat) (s : RM) (src : Nat) (ref : Int) :
    (insertCore hash s src ref).buckets = s.buckets := rfl

theorem insertCore_spec (hash : Nat → Nat) (s : RM) (I : Inv hash s) (src : Nat) (ref : Int) (hsrc : src ≠ 0)
    (hroom : ∃ e, e < s.buckets ∧ srcAt (insertCore hash s src ref) e = 0) :
    Inv hash (insertCore hash s src ref) ∧
    ∀ k, find hash (insertCore hash s src ref) k = if k = src then ref else find hash s k := by
  have hS := srcAt_insertCore hash s I src ref
  have hR := refAt_insertCore hash s I src ref
  have hjN : walk s (hash src) src 0 s.buckets < s.buckets := walk_lt hash s I _ _
  obtain ⟨i0, hi0, hw, hpath, hs⟩ := walk_spec hash s I src
  rw [← hw] at hs
  generalize walk s (hash src) src 0 s.buckets = j at hS hR hjN hw hs
  -- whether `src` is new or updated in place: afterwards it sits in slot `j` and nowhere else, the other slots keep
  -- their keys, and no slot has become empty
  have hnew : srcAt (insertCore hash s src ref) j = src := by rw [hS, if_pos rfl]
  have hsame : ∀ t, t ≠ j → srcAt (insertCore hash s src ref) t = srcAt s t := fun t c => by rw [hS, if_neg c]
  have hocc : ∀ t, srcAt s t ≠ 0 → srcAt (insertCore hash s src ref) t ≠ 0 := by
    intro t ht; rw [hS]; split
    · exact hsrc
    · exact ht
  have hj : ∀ t, t < s.buckets → srcAt (insertCore hash s src ref) t = src → t = j := by
    intro t ht hts
    apply Classical.byContradiction; intro c
    rw [hsame t c] at hts
    rcases hs with h | ⟨_, habs⟩
    · exact c (I.nodup t j ht hjN (by rw [hts]; exact hsrc) (hts.trans h.symm))
    · exact habs t ht hts
  have I' : Inv hash (insertCore hash s src ref) := by
    refine ⟨Array.size_setIfInBounds.trans I.size, I.pos, hroom, ?_, ?_⟩
    · -- with `s.buckets` in the goal the steps below need not unfold `insertCore` to compare bucket counts
      simp only [buckets_insertCore]
      intro j1 j2 h1 h2 hne heq
      by_cases c : srcAt (insertCore hash s src ref) j1 = src
      · rw [hj j1 h1 c, hj j2 h2 (heq.symm.trans c)]
      · have c1 : j1 ≠ j := fun e => c (e ▸ hnew)
        have c2 : j2 ≠ j := fun e => c (heq.trans (e ▸ hnew))
        rw [hsame j1 c1] at hne heq
        rw [hsame j2 c2] at heq
        exact I.nodup j1 j2 h1 h2 hne heq
    · -- the probe path of `src` is the one `walk` took; the other paths were full before and stay so
      simp only [buckets_insertCore]
      intro t i ht hne hi hit i' hi'
      apply hocc
      by_cases c : t = j
      · rw [c, hnew] at hit ⊢
        have : i = i0 := probe_inj _ _ _ _ hi hi0 (hit.trans hw)
        exact hpath i' (this ▸ hi')
      · rw [hsame t c] at hne hit ⊢
        exact I.path t i ht hne hi hit i' hi'
  refine ⟨I', fun k => ?_⟩
  by_cases hk : k = src
  · rw [if_pos hk, find_of_slot hash _ I' j hjN k (hk ▸ hsrc) (hnew.trans hk.symm), hR, if_pos rfl]
  rw [if_neg hk]
  by_cases hp : ∃ t, t < s.buckets ∧ srcAt s t = k ∧ k ≠ 0
  · -- `k` sits in a slot other than `j`, which the store leaves alone
    obtain ⟨t, ht, hts, hk0⟩ := hp
    have htj : t ≠ j := by
      intro e; subst e
      rcases hs with h | ⟨h, _⟩
      · exact hk (hts.symm.trans h)
      · exact hk0 (hts.symm.trans h)
    rw [find_of_slot hash _ I' t ht k hk0 ((hsame t htj).trans hts), hR, if_neg htj,
      find_of_slot hash s I t ht k hk0 hts]
  · have hnone : ∀ t, t < s.buckets → srcAt s t = k → k = 0 :=
      fun t ht e => Classical.byContradiction fun h0 => hp ⟨t, ht, e, h0⟩
    rw [find_none hash s I k hnone]
    apply find_none hash _ I'
    intro t ht e
    by_cases c : t = j
    · exact absurd ((c ▸ hnew).symm.trans e).symm hk
    · exact hnone t ht ((hsame t c).symm.trans e)

theorem insert_new (hash : Nat → Nat) (s : RM) (I : Inv hash s) (src : Nat) (ref : Int) (hsrc : src ≠ 0)
    (habs : ∀ t, t < s.buckets → srcAt s t ≠ src)
    (hroom : ∃ e1 e2, e1 < s.buckets ∧ e2 < s.buckets ∧ e1 ≠ e2 ∧ srcAt s e1 = 0 ∧ srcAt s e2 = 0) :
    Inv hash (insertCore hash s src ref) ∧
    find hash (insertCore hash s src ref) src = ref ∧
    (∀ t, t < s.buckets → srcAt s t ≠ 0 →
        srcAt (insertCore hash s src ref) t = srcAt s t ∧ refAt (insertCore hash s src ref) t = refAt s t) := by
  have hS := srcAt_insertCore hash s I src ref
  have hR := refAt_insertCore hash s I src ref
  have hz : srcAt s (walk s (hash src) src 0 s.buckets) = 0 :=
    (walk_cases hash s I src).elim (fun h => absurd h (habs _ (walk_lt hash s I _ _))) And.left
  obtain ⟨I', hfind⟩ := insertCore_spec hash s I src ref hsrc (by
    -- of two empty slots the store fills at most one
    obtain ⟨e1, e2, h1, h2, hne, z1, z2⟩ := hroom
    by_cases c : e1 = walk s (hash src) src 0 s.buckets
    · exact ⟨e2, h2, by rw [hS, if_neg (fun h => hne (c.trans h.symm)), z2]⟩
    · exact ⟨e1, h1, by rw [hS, if_neg c, z1]⟩)
  refine ⟨I', by rw [hfind, if_pos rfl], ?_⟩
  intro t _ hne
  have c : t ≠ walk s (hash src) src 0 s.buckets := fun e => hne (e ▸ hz)
  rw [hS, hR, if_neg c, if_neg c]
  exact ⟨rfl, rfl⟩

theorem srcAt_replicate (b j : Nat) : srcAt { buckets := b, table := Array.replicate b (0, 0) } j = 0 := by
  unfold srcAt
  simp only [Array.getElem!_eq_getD, Array.getD_eq_getD_getElem?, Array.getElem?_replicate]
  split <;> rfl

theorem Inv_replicate (hash : Nat → Nat) (b : Nat) (hb : 0 < b) :
    Inv hash { buckets := b, table := Array.replicate b (0, 0) } :=
  ⟨Array.size_replicate, hb, ⟨0, hb, srcAt_replicate b 0⟩,
    fun j1 _ _ _ h => absurd (srcAt_replicate b j1) h, fun t _ _ h => absurd (srcAt_replicate b t) h⟩

end Flatcc.Refmap
