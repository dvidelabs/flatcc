import FlatccModel.JsonScan
/-!
# C04 — the generic JSON scanners read in bounds, terminate and return positions inside the input (model: JsonScan.lean)

For EVERY byte array `inp`, start position `i ≤ inp.size` (the callers' contract `buf ≤ end`) and context `c` (flags, `unquoted`,
an earlier error or none, either build of `space_ext`). `Sat m Q`: `m` ends normally (neither `.oob` nor `.fuel`) with a value
satisfying `Q`; one rule per construct of the model (`Sat.seq`, `Sat.rd`, `Sat.ite`, `iter_fwd` for the loops). A `_sat` lemma,
read with the model function beside it, goes with every function that is a scanner, has a loop or is called from several
places; `numInt`, `numExp2`, `spFast`, `push` and the two loops of `symbolEndF` are verified where they are called.

A scanner started at `i` runs inside a scan that was at `st ≤ i` with context `c0`. `ErrOk n st c0 c` ties `c` to that point
(first error kept, a new one located in `[st, n]`); `Post n st c0 lo r`: the result `r` has its position in `[lo, n]` and a context
still tied to `c0`. The pair `st`, `c0` lets the contracts of calls in a row compose; `Scans` closes it off for a caller.
`Reach step s0`: the states a loop runs through (`iter_reach`), of which the nesting bound of `generic_json` speaks.
-/
namespace Flatcc.JsonScan

def Sat {α : Type} (m : M α) (Q : α → Prop) : Prop := ∃ x, m = .ok x ∧ Q x

theorem Sat.pure {α : Type} {Q : α → Prop} {x : α} (h : Q x) : Sat (Except.ok x : M α) Q := ⟨x, rfl, h⟩

theorem Sat.mono {α : Type} {m : M α} {Q Q' : α → Prop} (h : Sat m Q) (hq : ∀ x, Q x → Q' x) : Sat m Q' := by
  obtain ⟨x, hm, hx⟩ := h
  exact ⟨x, hm, hq x hx⟩

theorem Sat.seq {α β : Type} {m : M α} {k : α → M β} {P : α → Prop} {Q : β → Prop}
    (hm : Sat m P) (hk : ∀ x, P x → Sat (k x) Q) : Sat (m >>= k) Q := by
  obtain ⟨x, hx, hp⟩ := hm
  rw [hx]; exact hk x hp

theorem Sat.rd {α : Type} {inp : Array Nat} {i : Nat} {k : Nat → M α} {Q : α → Prop} (hi : i < inp.size)
    (h : Sat (k (byteAt inp i)) Q) : Sat (JsonScan.rd inp i >>= k) Q := by
  unfold JsonScan.rd; rw [if_pos hi]; exact h

theorem Sat.ite {α : Type} {p : Prop} [Decidable p] {a b : M α} {Q : α → Prop}
    (ht : p → Sat a Q) (hf : ¬p → Sat b Q) : Sat (if p then a else b) Q := by
  by_cases h : p
  · rw [if_pos h]; exact ht h
  · rw [if_neg h]; exact hf h

/-- a test whose outcome does not matter, as the tests on the bytes read: only the tests on positions guard the reads -/
theorem Sat.either {α : Type} {p : Prop} [Decidable p] {a b : M α} {Q : α → Prop}
    (ha : Sat a Q) (hb : Sat b Q) : Sat (if p then a else b) Q :=
  .ite (fun _ => ha) fun _ => hb

/-- `if (buf != end) { … *buf … } else …` -/
theorem Sat.notEnd {α : Type} {inp : Array Nat} {i : Nat} {k : Nat → M α} {e : M α} {Q : α → Prop} (hi : i ≤ inp.size)
    (hk : i < inp.size → Sat (k (byteAt inp i)) Q) (he : Sat e Q) :
    Sat (if i ≠ inp.size then JsonScan.rd inp i >>= k else e) Q :=
  .ite (fun h => .rd (Nat.lt_of_le_of_ne hi h) (hk (Nat.lt_of_le_of_ne hi h))) fun _ => he

/-- `if (buf == end) … ; … *buf …` -/
theorem Sat.atEnd {α : Type} {inp : Array Nat} {i : Nat} {k : Nat → M α} {e : M α} {Q : α → Prop} (hi : i ≤ inp.size)
    (he : Sat e Q) (hk : i < inp.size → Sat (k (byteAt inp i)) Q) :
    Sat (if i = inp.size then e else JsonScan.rd inp i >>= k) Q :=
  .ite (fun _ => he) fun h => .rd (Nat.lt_of_le_of_ne hi h) (hk (Nat.lt_of_le_of_ne hi h))

theorem Sat.ne_error {α : Type} {m : M α} {Q : α → Prop} (h : Sat m Q) (e : Err) : m ≠ .error e := by
  obtain ⟨x, hm, _⟩ := h; rw [hm]; intro h; cases h

def NextP {σ ρ : Type} (A : σ → Prop) (B : ρ → Prop) : Next σ ρ → Prop
  | .cont s => A s
  | .done r => B r

@[simp] theorem NextP_cont {σ ρ : Type} (A : σ → Prop) (B : ρ → Prop) (s : σ) : NextP A B (.cont s) = A s := rfl
@[simp] theorem NextP_done {σ ρ : Type} (A : σ → Prop) (B : ρ → Prop) (r : ρ) : NextP A B (.done r) = B r := rfl

theorem NextP.mono {σ ρ : Type} {A A' : σ → Prop} {B B' : ρ → Prop} (ha : ∀ s, A s → A' s) (hb : ∀ r, B r → B' r) :
    ∀ x, NextP A B x → NextP A' B' x
  | .cont s => ha s
  | .done r => hb r

/-- the loops of the scanners move a position forward inside `[lo, n]`: a round ends with `P` or goes on further right, so
`n - pos` rounds and one more suffice -/
theorem iter_fwd {σ ρ : Type} {step : σ → M (Next σ ρ)} (pos : σ → Nat) (lo n : Nat) (C : σ → Prop) {P : ρ → Prop}
    (h : ∀ s, lo ≤ pos s → pos s ≤ n → C s → Sat (step s) (NextP (fun s' => pos s < pos s' ∧ pos s' ≤ n ∧ C s') P))
    {fuel : Nat} {s : σ} (hl : lo ≤ pos s) (hn : pos s ≤ n) (hc : C s) (hf : n - pos s < fuel) : Sat (iter step fuel s) P := by
  induction fuel generalizing s with
  | zero => cases hf
  | succ f ih =>
    unfold iter
    refine .seq (h s hl hn hc) fun x hq => ?_
    cases x with
    | cont s' =>
      have hlt : n - pos s' < n - pos s := Nat.sub_lt_sub_left (Nat.lt_of_lt_of_le hq.1 hq.2.1) hq.1
      exact ih (Nat.le_trans hl (Nat.le_of_lt hq.1)) hq.2.1 hq.2.2 (Nat.lt_of_lt_of_le hlt (Nat.le_of_lt_succ hf))
    | done r => exact .pure hq

/-- states reachable from `s0` by rounds of `step` -/
inductive Reach {σ ρ : Type} (step : σ → M (Next σ ρ)) (s0 : σ) : σ → Prop where
  | refl : Reach step s0 s0
  | next {s s' : σ} : Reach step s0 s → step s = .ok (.cont s') → Reach step s0 s'

theorem Reach.inv {σ ρ : Type} {step : σ → M (Next σ ρ)} {Inv : σ → Prop}
    (h : ∀ s s', Inv s → step s = .ok (.cont s') → Inv s') {s0 s : σ} (h0 : Inv s0) (hr : Reach step s0 s) : Inv s := by
  induction hr with
  | refl => exact h0
  | next _ hs ih => exact h _ _ ih hs

/-- the result of a loop comes from a state reachable from the start (so `Reach` covers what `iter` runs through) -/
theorem iter_reach {σ ρ : Type} (step : σ → M (Next σ ρ)) (fuel : Nat) (s0 : σ) (r : ρ) (h : iter step fuel s0 = .ok r) :
    ∃ s, Reach step s0 s ∧ step s = .ok (.done r) := by
  suffices H : ∀ fuel s, Reach step s0 s → iter step fuel s = .ok r → ∃ s', Reach step s0 s' ∧ step s' = .ok (.done r) from
    H fuel s0 .refl h
  intro fuel
  induction fuel with
  | zero => intro s _ h; simp [iter] at h
  | succ f ih =>
    intro s hr h
    unfold iter at h
    cases hs : step s with
    | error e => rw [hs] at h; cases h
    | ok x =>
      rw [hs] at h
      cases x with
      | cont s' => exact ih s' (hr.next hs) h
      | done r' =>
        cases h
        exact ⟨s, hr, hs⟩

/-- more fuel never changes a normal result; true of `iter`, kept by `>>=` and `if`, hence of every `…F` function -/
def FuelMono {α : Type} (F : Nat → M α) : Prop := ∀ f k r, F f = .ok r → F (f + k) = .ok r

theorem FuelMono.const {α : Type} (m : M α) : FuelMono (fun _ => m) := fun _ _ _ h => h

theorem FuelMono.iter {σ ρ : Type} (step : σ → M (Next σ ρ)) (s : σ) : FuelMono (fun f => iter step f s) := by
  intro f k r h
  change JsonScan.iter step f s = .ok r at h
  show JsonScan.iter step (f + k) s = .ok r
  induction f generalizing s with
  | zero => simp [JsonScan.iter] at h
  | succ f ih =>
    rw [Nat.add_right_comm]
    unfold JsonScan.iter at h ⊢
    revert h
    cases step s with
    | error e => nofun
    | ok x =>
      cases x with
      | cont s' => exact ih s'
      | done r' => exact id

theorem FuelMono.bind {α β : Type} {F : Nat → M α} {G : Nat → α → M β} (hF : FuelMono F) (hG : ∀ x, FuelMono (G · x)) :
    FuelMono (fun f => F f >>= G f) := by
  intro f k r h
  change F f >>= G f = .ok r at h
  show F (f + k) >>= G (f + k) = .ok r
  cases hx : F f with
  | error e => rw [hx] at h; cases h
  | ok x => rw [hx] at h; rw [hF f k x hx]; exact hG x f k r h

theorem FuelMono.ite {α : Type} {p : Prop} [Decidable p] {F G : Nat → M α} (hF : FuelMono F) (hG : FuelMono G) :
    FuelMono (fun f => if p then F f else G f) := by
  by_cases h : p
  · simpa only [if_pos h] using hF
  · simpa only [if_neg h] using hG

theorem FuelMono.enough {α : Type} {F : Nat → M α} (hF : FuelMono F) {f : Nat} {P : α → Prop} (h : Sat (F f) P) (k : Nat) :
    F (f + k) = F f := by
  obtain ⟨r, hr, _⟩ := h
  rw [hr]; exact hF f k r hr

def ErrOk (n s : Nat) (c0 c : Ctx) : Prop :=
  (c0.error = 0 → c.error ≠ 0 → s ≤ c.errorLoc ∧ c.errorLoc ≤ n) ∧
  (c0.error ≠ 0 → c.error = c0.error ∧ c.errorLoc = c0.errorLoc)

theorem ErrOk.refl (n s : Nat) (c : Ctx) : ErrOk n s c c := ⟨fun h h' => absurd h h', fun _ => ⟨rfl, rfl⟩⟩

theorem ErrOk.setError {n s : Nat} {c0 c : Ctx} (h : ErrOk n s c0 c) {loc : Nat} (h1 : s ≤ loc) (h2 : loc ≤ n) (e : Nat) :
    ErrOk n s c0 (JsonScan.setError c loc n e).2 := by
  unfold JsonScan.setError
  by_cases hc : c.error = 0
  · rw [if_pos hc]
    exact ⟨fun _ _ => ⟨h1, h2⟩, fun h0 => absurd ((h.2 h0).1.symm.trans hc) h0⟩
  · rw [if_neg hc]; exact h

@[simp] theorem setError_fst (c : Ctx) (loc n e : Nat) : (setError c loc n e).1 = n := rfl

theorem setError_spec (c : Ctx) (loc n e : Nat) :
    (setError c loc n e).1 = n ∧
    (c.error = 0 → (setError c loc n e).2.error = e ∧ (setError c loc n e).2.errorLoc = loc
      ∧ (setError c loc n e).2.pos = loc + 1 - c.lineStart) ∧
    (c.error ≠ 0 → (setError c loc n e).2 = c) := by
  unfold setError
  refine ⟨rfl, fun h => ?_, fun h => ?_⟩
  · simp [h]
  · simp [h]

/-- a scanner started at `i` has `lo = i`, or `lo = min (i + 1) n` if it moves whenever anything is left -/
def Post (n s : Nat) (c0 : Ctx) (lo : Nat) (r : Nat × Ctx) : Prop := lo ≤ r.1 ∧ r.1 ≤ n ∧ ErrOk n s c0 r.2

theorem Post.ret {n s lo p : Nat} {c0 c : Ctx} (h1 : lo ≤ p) (h2 : p ≤ n) (h : ErrOk n s c0 c) : Post n s c0 lo (p, c) := ⟨h1, h2, h⟩

theorem Post.err {n s lo loc : Nat} {c0 c : Ctx} (hi : lo ≤ n) (h1 : s ≤ loc) (h2 : loc ≤ n) (h : ErrOk n s c0 c) (e : Nat) :
    Post n s c0 lo (setError c loc n e) := ⟨hi, Nat.le_refl _, h.setError h1 h2 e⟩

theorem Post.weaken {n s lo lo' : Nat} {c0 : Ctx} {r : Nat × Ctx} (h : Post n s c0 lo r) (hi : lo' ≤ lo) : Post n s c0 lo' r :=
  ⟨Nat.le_trans hi h.1, h.2.1, h.2.2⟩

theorem Post.moved {n s i p : Nat} {c0 c : Ctx} (h1 : i < p) (h2 : p ≤ n) (h : ErrOk n s c0 c) :
    Post n s c0 (min (i + 1) n) (p, c) := ⟨Nat.le_trans (Nat.min_le_left _ _) h1, h2, h⟩

theorem Post.errMoved {n s i loc : Nat} {c0 c : Ctx} (h1 : s ≤ loc) (h2 : loc ≤ n) (h : ErrOk n s c0 c) (e : Nat) :
    Post n s c0 (min (i + 1) n) (setError c loc n e) := .err (Nat.min_le_right _ _) h1 h2 h e

theorem Post.lower {n s j lo : Nat} {c0 : Ctx} {r : Nat × Ctx} (h : Post n s c0 (min (j + 1) n) r) (h1 : lo ≤ j + 1) (h2 : lo ≤ n) :
    Post n s c0 lo r := h.weaken (Nat.le_min.mpr ⟨h1, h2⟩)

/-! `while (buf != end && p(*buf)) ++buf` stops at the end or at the first byte that fails `p` -/

theorem scanWhile_sat (p : Nat → Bool) {inp : Array Nat} {i : Nat} (hi : i ≤ inp.size) :
    Sat (scanWhile p inp i) (fun j => i ≤ j ∧ j ≤ inp.size ∧ (j < inp.size → p (byteAt inp j) = false)) := by
  refine iter_fwd (fun j => j) i inp.size (fun _ => True) (fun j hl hn _ => ?_) (Nat.le_refl i) hi trivial (Nat.lt_succ_self _)
  unfold scanStep
  refine .ite (fun hne => ?_) fun hend => .pure ⟨hl, hn, fun h => absurd (Nat.ne_of_lt h) hend⟩
  refine .rd (Nat.lt_of_le_of_ne hn hne) ?_
  refine .ite (fun _ => .pure ⟨Nat.lt_succ_self j, Nat.lt_of_le_of_ne hn hne, trivial⟩) fun hp => ?_
  exact .pure ⟨hl, hn, fun _ => Bool.eq_false_iff.mpr hp⟩

theorem scanWhile_fuel_enough (p : Nat → Bool) (inp : Array Nat) (i : Nat) (hi : i ≤ inp.size) (extra : Nat) :
    scanWhileF p (inp.size - i + 1 + extra) inp i = scanWhile p inp i :=
  (FuelMono.iter _ _).enough (scanWhile_sat p hi) extra

/-- what the fast path of `space_ext` started at `i` returns: a position in `[i, size]` and, as the flag "return it right
away", that a byte above 0x20 stands there (so inside the input: `byteAt` is 0 behind it) -/
abbrev FastOk (inp : Array Nat) (i : Nat) (r : Nat × Bool) : Prop :=
  i ≤ r.1 ∧ r.1 ≤ inp.size ∧ (r.2 = true → sgt (byteAt inp r.1) 32 = true)

theorem rd16_sat {inp : Array Nat} {i : Nat} (hi : i + 1 < inp.size) : Sat (rd16 inp i) (fun _ => True) := by
  unfold rd16
  refine .rd (Nat.lt_of_succ_lt hi) ?_
  exact .rd hi (.pure trivial)

theorem rd32_sat {inp : Array Nat} {i : Nat} (hi : i + 3 < inp.size) : Sat (rd32 inp i) (fun _ => True) := by
  unfold rd32
  refine .seq (rd16_sat (Nat.lt_of_add_right_lt (k := 2) hi)) fun _ _ => ?_
  exact .seq (rd16_sat hi) fun _ _ => .pure trivial

theorem rd64_sat {inp : Array Nat} {i : Nat} (hi : i + 7 < inp.size) : Sat (rd64 inp i) (fun _ => True) := by
  unfold rd64
  refine .seq (rd32_sat (Nat.lt_of_add_right_lt (k := 4) hi)) fun _ _ => ?_
  exact .seq (rd32_sat hi) fun _ _ => .pure trivial

theorem decodeHex4_sat {inp : Array Nat} {i : Nat} (hi : i + 3 < inp.size) : Sat (decodeHex4 inp i) (fun _ => True) := by
  have none : Sat (Except.ok none : M (Option Nat)) (fun _ => True) := .pure trivial
  unfold decodeHex4
  refine .rd (Nat.lt_of_add_right_lt hi) (.either none ?_)
  refine .rd (Nat.lt_of_add_right_lt (k := 2) hi) (.either none ?_)
  refine .rd (Nat.lt_of_succ_lt hi) (.either none ?_)
  refine .rd hi (.either none ?_)
  exact .pure trivial

section
/-! the fast path started at `i` has come to `j`. Where the model steps conditionally (`if … then j + 4 else j`) and reads
on, the new position gets a name and what is known of it; where it ends with a call from there, `apply_ite` moves the test
outside the call -/
variable {inp : Array Nat} {i j : Nat} (hj : i ≤ j)
include hj

theorem spFast2_sat (hn : j + 1 < inp.size) : Sat (spFast2 inp j) (FastOk inp i) := by
  unfold spFast2
  refine .rd (Nat.lt_of_succ_lt hn) ?_
  generalize hp : (if byteAt inp j = 32 then j + 1 else j) = p
  replace hp : i ≤ p ∧ p < inp.size := by
    subst hp; split
    · exact ⟨Nat.le_succ_of_le hj, hn⟩
    · exact ⟨hj, Nat.lt_of_succ_lt hn⟩
  refine .rd hp.2 (.pure ?_)
  -- the projections of the pair are reduced first: the unifier unfolds `sgt` before them otherwise
  dsimp only [FastOk]
  exact ⟨hp.1, Nat.le_of_lt hp.2, id⟩

theorem spDescend_sat (hn : j + 7 < inp.size) : Sat (spDescend inp j) (FastOk inp i) := by
  unfold spDescend
  have h3 : j + 3 < inp.size := Nat.lt_of_add_right_lt (k := 4) hn
  refine .seq (rd32_sat h3) fun w _ => ?_
  generalize hk : (if w = 0x20202020 then j + 4 else j) = k
  replace hk : i ≤ k ∧ k + 3 < inp.size := by
    subst hk; split
    · exact ⟨Nat.le_add_right_of_le hj, hn⟩
    · exact ⟨hj, h3⟩
  have h1 : k + 1 < inp.size := Nat.lt_of_succ_lt (Nat.lt_of_succ_lt hk.2)
  refine .seq (rd16_sat h1) fun h _ => ?_
  rw [apply_ite (spFast2 inp)]
  exact .either (spFast2_sat (Nat.le_add_right_of_le hk.1) hk.2) (spFast2_sat hk.1 h1)

end

theorem spFastDefault_sat {inp : Array Nat} {i : Nat} (hi : i ≤ inp.size) : Sat (spFastDefault inp i) (FastOk inp i) := by
  unfold spFastDefault
  refine .ite (fun h16 => ?_) fun _ => .pure ⟨Nat.le_refl i, hi, nofun⟩
  have h3 : i + 3 < inp.size := Nat.add_lt_of_lt_sub' (Nat.lt_of_lt_of_le (by decide) h16)
  have h1 : i + 1 < inp.size := Nat.lt_of_add_right_lt (k := 2) h3
  have hlt : i < inp.size := Nat.lt_of_succ_lt h1
  refine .rd hlt ?_
  refine .ite (fun hb => .pure ⟨Nat.le_refl i, hi, fun _ => hb⟩) fun _ => ?_
  refine .rd hlt ?_
  refine .rd h1 ?_
  rw [apply_ite (spFast2 inp)]
  exact .either (spFast2_sat (Nat.le_add_right i 2) h3) (spFast2_sat (Nat.le_refl i) h1)

theorem spFastWide_sat {inp : Array Nat} {i : Nat} (hi : i ≤ inp.size) : Sat (spFastWide inp i) (FastOk inp i) := by
  refine iter_fwd (fun j => j) i inp.size (fun _ => True) (fun j hj hn _ => ?_) (Nat.le_refl i) hi trivial (Nat.lt_succ_self _)
  unfold spWideStep
  refine .ite (fun h16 => ?_) fun _ => .pure ⟨hj, hn, nofun⟩
  replace h16 : j + 16 ≤ inp.size := Nat.add_le_of_le_sub' hn h16
  have h15 : j + 8 + 7 < inp.size := Nat.lt_of_succ_le h16
  have h7 : j + 7 < inp.size := Nat.lt_of_add_right_lt (k := 8) h15
  refine .rd (Nat.lt_of_add_right_lt h7) ?_
  refine .ite (fun hb => .pure ⟨hj, hn, fun _ => hb⟩) fun _ => ?_
  refine .seq (rd64_sat h7) fun w0 _ => ?_
  refine .either (.seq (spDescend_sat hj h7) fun r hr => .pure hr) ?_
  refine .seq (rd64_sat h15) fun w1 _ => ?_
  refine .either (.seq (spDescend_sat (Nat.le_add_right_of_le hj) h15) fun r hr => .pure hr) ?_
  exact .pure ⟨Nat.lt_add_of_pos_right (by decide), h16, trivial⟩

theorem spFastWide_fuel_enough (inp : Array Nat) (i : Nat) (hi : i ≤ inp.size) (extra : Nat) :
    spFastWideF (inp.size - i + 1 + extra) inp i = spFastWide inp i :=
  (FuelMono.iter _ _).enough (spFastWide_sat hi) extra

theorem spHead_sat (wide : Bool) {inp : Array Nat} {i : Nat} (hi : i ≤ inp.size) :
    Sat (spHead wide inp i) (fun r => i ≤ r.1 ∧ r.1 ≤ inp.size ∧ (i < inp.size → byteAt inp i = 32 → i < r.1)) := by
  have fast : Sat (spFast wide inp i) (FastOk inp i) := by
    unfold spFast
    exact .either (spFastWide_sat hi) (spFastDefault_sat hi)
  have moved {j : Nat} (hj : i ≤ j) (h32 : byteAt inp i = 32) (hb : byteAt inp j ≠ 32) : i < j :=
    Nat.lt_of_le_of_ne hj fun h => hb (h ▸ h32)
  unfold spHead
  refine .seq fast fun r ⟨h1, h2, hflag⟩ => ?_
  refine .ite (fun ht => .pure ⟨h1, h2, fun _ h32 => moved h1 h32 fun h => ?_⟩) fun _ => ?_
  · have := hflag ht; rw [h] at this; simp [sgt] at this
  refine .seq (scanWhile_sat isSp h2) fun j ⟨h3, h4, hstop⟩ => ?_
  refine .pure ⟨Nat.le_trans h1 h3, h4, fun hlt h32 => ?_⟩
  -- the loop stops at the end, behind `i`, or on a byte that is no blank
  rcases Nat.eq_or_lt_of_le h4 with rfl | hj
  · exact hlt
  · exact moved (Nat.le_trans h1 h3) h32 fun h => by have := hstop hj; simp [isSp, h] at this

theorem spCr_sat {inp : Array Nat} {i : Nat} (hi : i < inp.size) : Sat (spCr inp i) (fun j => i ≤ j ∧ j < inp.size) := by
  unfold spCr
  refine .ite (fun h2 => ?_) fun _ => .pure ⟨Nat.le_refl _, hi⟩
  refine .rd (Nat.add_lt_of_lt_sub' h2) ?_
  refine .pure ?_
  split
  · exact ⟨Nat.le_succ i, Nat.add_lt_of_lt_sub' h2⟩
  · exact ⟨Nat.le_refl i, hi⟩

section
variable {inp : Array Nat} {st : Nat} {c0 : Ctx}

theorem spWsLoop_sat {i0 fuel : Nat} {s : Nat × Ctx} (h : Post inp.size st c0 i0 s) (hs : st ≤ i0) (hf : inp.size - s.1 < fuel) :
    Sat (iter (spWsStep inp) fuel s) (Post inp.size st c0 i0) := by
  refine iter_fwd (·.1) i0 inp.size (fun s => ErrOk inp.size st c0 s.2) (fun s hl hn he => ?_) h.1 h.2.1 h.2.2 hf
  have same : Post inp.size st c0 i0 s := ⟨hl, hn, he⟩
  unfold spWsStep
  refine .notEnd hn (fun hlt => ?_) (.pure same)
  refine .either ?_ (.pure same)
  refine .either ?_ ?_
  · refine .seq (spCr_sat hlt) fun j hj => ?_
    exact .pure ⟨Nat.lt_succ_of_le hj.1, hj.2, he⟩
  refine .either (.pure ⟨Nat.lt_succ_self s.1, hlt, he⟩) ?_
  refine .either (.pure ⟨Nat.lt_succ_self s.1, hlt, he⟩) ?_
  refine .ite (fun h32 => ?_) fun _ => .pure (.err (Nat.le_trans hl hn) (Nat.le_trans hs hl) hn he _)
  refine .seq (spHead_sat _ hn) fun r hr => ?_
  have hlt' := hr.2.2 hlt h32
  refine .either (.pure (.ret (Nat.le_trans hl hr.1) hr.2.1 he)) ?_
  exact .pure ⟨hlt', hr.2.1, he⟩

variable {i : Nat} {c : Ctx} (hs : st ≤ i) (hi : i ≤ inp.size) (he : ErrOk inp.size st c0 c)
include hs hi he

theorem spaceExt_sat : Sat (spaceExt inp i c) (Post inp.size st c0 i) := by
  unfold spaceExt spaceExtF
  refine .seq (spHead_sat _ hi) fun r hr => ?_
  have left : inp.size - r.1 ≤ inp.size - i := Nat.sub_le_sub_left hr.1 _
  refine .either (.pure (.ret hr.1 hr.2.1 he)) ?_
  exact spWsLoop_sat (.ret hr.1 hr.2.1 he) hs (Nat.lt_succ_of_le left)

theorem space_sat : Sat (space inp i c) (Post inp.size st c0 i) := by
  have ext := spaceExt_sat hs hi he
  unfold space
  refine .ite (fun h2 => ?_) fun _ => ext
  replace h2 : i + 1 < inp.size := Nat.add_lt_of_lt_sub' h2
  refine .rd (Nat.lt_of_succ_lt h2) ?_
  refine .either (.pure (.ret (Nat.le_refl i) hi he)) ?_
  refine .either ?_ ext
  refine .rd h2 ?_
  exact .either (.pure (.ret (Nat.le_succ i) (Nat.le_of_lt h2) he)) ext

end

section
variable {inp : Array Nat} {st : Nat} {c0 : Ctx} {i : Nat} {c : Ctx} (hs : st ≤ i) (hi : i ≤ inp.size) (he : ErrOk inp.size st c0 c)
include hs hi he

/-- the whole body of `stringStart` and of `stringEnd`, and the end of `symbolEndF` (quoted case, at `i := j`): the model writes
the term out each time, the three uses match it syntactically -/
theorem quote_sat (e : Nat) :
    Sat (if i = inp.size then Except.ok (setError c i inp.size e) else
      rd inp i >>= fun b => if b ≠ 34 then Except.ok (setError c i inp.size e) else Except.ok (i + 1, c))
      (Post inp.size st c0 (min (i + 1) inp.size)) := by
  have bad := Sat.pure (Post.errMoved (i := i) hs hi he e)
  refine .atEnd hi bad fun hlt => ?_
  exact .either bad (.pure (.moved (Nat.lt_succ_self i) hlt he))

theorem stringStart_sat : Sat (stringStart inp i c) (Post inp.size st c0 (min (i + 1) inp.size)) := quote_sat hs hi he _
theorem stringEnd_sat : Sat (stringEnd inp i c) (Post inp.size st c0 (min (i + 1) inp.size)) := quote_sat hs hi he _

theorem stringPart_sat : Sat (stringPart inp i c) (Post inp.size st c0 i) := by
  unfold stringPart
  refine .seq (scanWhile_sat isPlain hi) fun j ⟨h1, h2, _⟩ => ?_
  have bad (e : Nat) := Sat.pure (Post.err hi (Nat.le_trans hs h1) h2 he e)
  have good := Sat.pure (Post.ret h1 h2 he)
  refine .atEnd h2 (bad _) fun _ => ?_
  refine .either good ?_
  exact .either (bad _) good

theorem escBad_sat : Sat (Except.ok (setError c i inp.size E_invalid_escape) : M _) (Post inp.size st c0 (min (i + 1) inp.size)) :=
  .pure (.errMoved hs hi he _)

theorem escX_sat : Sat (escX inp i c) (Post inp.size st c0 (min (i + 1) inp.size)) := by
  have bad := escBad_sat hs hi he
  unfold escX
  refine .ite (fun _ => bad) fun h4 => ?_
  replace h4 : i + 4 ≤ inp.size := Nat.add_le_of_le_sub' hi (Nat.le_of_not_lt h4)
  refine .rd (Nat.lt_of_succ_lt h4) (.either bad ?_)
  refine .rd h4 (.either bad ?_)
  exact .pure (.moved (Nat.lt_add_of_pos_right (by decide)) h4 he)

theorem escPair_sat (u : Nat) (h6 : i + 6 ≤ inp.size) : Sat (escPair inp i c u) (Post inp.size st c0 (min (i + 1) inp.size)) := by
  have g6 := Sat.pure (Post.moved (i := i) (Nat.lt_add_of_pos_right (by decide)) h6 he)
  unfold escPair
  refine .ite (fun h12 => ?_) fun _ => g6
  replace h12 : i + 12 ≤ inp.size := Nat.add_le_of_le_sub' hi h12.2.2
  refine .rd (by omega) (.either g6 ?_)
  refine .rd (by omega) (.either g6 ?_)
  refine .seq (decodeHex4_sat h12) fun u2 _ => ?_
  refine .either ?_ g6
  exact .either (escBad_sat hs hi he) (.pure (.moved (Nat.lt_add_of_pos_right (by decide)) h12 he))

theorem escU_sat : Sat (escU inp i c) (Post inp.size st c0 (min (i + 1) inp.size)) := by
  have bad := escBad_sat hs hi he
  unfold escU
  refine .ite (fun _ => bad) fun h6 => ?_
  replace h6 : i + 6 ≤ inp.size := Nat.add_le_of_le_sub' hi (Nat.le_of_not_lt h6)
  refine .seq (decodeHex4_sat h6) fun u _ => ?_
  exact .either bad (escPair_sat hs hi he _ h6)

theorem stringEscape_sat : Sat (stringEscape inp i c) (Post inp.size st c0 (min (i + 1) inp.size)) := by
  have bad := escBad_sat hs hi he
  unfold stringEscape
  refine .ite (fun _ => bad) fun h2 => ?_
  replace h2 : i + 2 ≤ inp.size := Nat.add_le_of_le_sub' hi (Nat.le_of_not_lt h2)
  refine .rd (Nat.lt_of_succ_lt h2) (.either bad ?_)
  refine .rd h2 ?_
  refine .either (escX_sat hs hi he) ?_
  refine .either (escU_sat hs hi he) ?_
  exact .either (.pure (.moved (Nat.lt_add_of_pos_right Nat.two_pos) h2 he)) bad

theorem symbolStart_sat : Sat (symbolStart inp i c) (Post inp.size st c0 i) := by
  unfold symbolStart
  refine .atEnd hi (.pure (.ret (Nat.le_refl i) hi he)) fun hlt => ?_
  refine .either (.pure (.ret (by omega) hlt he)) ?_
  refine .either (.pure (.err hi hs hi he _)) ?_
  exact .pure (.ret (Nat.le_refl i) hi he)

theorem symbolEnd_sat : Sat (symbolEnd inp i c) (Post inp.size st c0 i) := by
  have hf := Nat.lt_succ_self (inp.size - i)
  unfold symbolEnd symbolEndF
  refine .either ?_ ?_
  · refine .seq (P := fun r => i ≤ r.1 ∧ r.1 ≤ inp.size) ?_ fun r hr => ?_
    · refine iter_fwd (·.1) i inp.size (fun _ => True) (fun s hl hn _ => ?_) (Nat.le_refl i) hi trivial hf
      unfold symUnqStep
      refine .notEnd hn (fun hlt => ?_) (.pure ⟨hl, hn⟩)
      refine .either ?_ (.pure ⟨hl, hn⟩)
      exact .either (.pure ⟨Nat.lt_succ_self s.1, hlt, trivial⟩) (.pure ⟨hl, Nat.le_of_lt hlt⟩)
    · exact .either (.pure (.err hi (Nat.le_trans hs hr.1) hr.2 he _)) (.pure (.ret hr.1 hr.2 he))
  · refine .seq (P := fun j => i ≤ j ∧ j ≤ inp.size) ?_ fun j hj => ?_
    · refine iter_fwd (fun j => j) i inp.size (fun _ => True) (fun j hl hn _ => ?_) (Nat.le_refl i) hi trivial hf
      unfold symQStep
      refine .notEnd hn (fun hlt => ?_) (.pure ⟨hl, hn⟩)
      refine .either ?_ (.pure ⟨hl, hn⟩)
      refine .either ?_ (.pure ⟨Nat.lt_succ_self j, hlt, trivial⟩)
      refine .ite (fun _ => .pure ⟨hl, hn⟩) fun h2 => ?_
      replace h2 : j + 2 ≤ inp.size := Nat.add_le_of_le_sub' hn (Nat.le_of_not_lt h2)
      exact .pure ⟨Nat.lt_add_of_pos_right Nat.two_pos, h2, trivial⟩
    · exact .mono (quote_sat (Nat.le_trans hs hj.1) hj.2 he _) fun r hr => hr.lower (Nat.le_succ_of_le hj.1) hi

theorem constantStart_sat : Sat (constantStart inp i c) (Post inp.size st c0 i) := by
  unfold constantStart
  refine .seq (symbolStart_sat hs hi he) fun r hr => ?_
  refine .either ?_ (.pure hr)
  exact .mono (space_sat (Nat.le_trans hs hr.1) hr.2.1 hr.2.2) fun x hx => hx.weaken hr.1

omit hs hi he in
/-- after a delimiter at `j`: the `space inp (j + 1) … >>= fun r => .ok (r.1, r.2, false)` of `groupStart` (`j := r.1`) and of
`groupEnd` (`r.1`; `r2.1` after a comma), up to the name of the bound variable -/
theorem afterDelim_sat {lo j : Nat} {c1 : Ctx} (hj : st ≤ j ∧ lo ≤ j + 1 ∧ j < inp.size) (e : ErrOk inp.size st c0 c1) :
    Sat (space inp (j + 1) c1 >>= fun r => Except.ok (r.1, r.2, false)) (fun r => Post inp.size st c0 lo (r.1, r.2.1)) := by
  refine .seq (space_sat (Nat.le_succ_of_le hj.1) hj.2.2 e) fun r ⟨a, b, e2⟩ => ?_
  exact .pure (.ret (Nat.le_trans hj.2.1 a) b e2)

theorem groupStart_sat (opn cls err : Nat) :
    Sat (groupStart opn cls err inp i c) (fun r => Post inp.size st c0 i (r.1, r.2.1)) := by
  unfold groupStart
  refine .atEnd hi (.pure (.err hi hs hi he _)) fun hlt => ?_
  refine .either (.pure (.err hi hs hi he _)) ?_
  refine .seq (space_sat (Nat.le_succ_of_le hs) hlt he) fun r ⟨h1, h2, e1⟩ => ?_
  have l1 : i ≤ r.1 := Nat.le_of_succ_le h1
  have more : Sat (Except.ok (r.1, r.2, true) : M _) (fun r => Post inp.size st c0 i (r.1, r.2.1)) :=
    .pure (.ret l1 h2 e1)
  refine .notEnd h2 (fun hlt2 => ?_) more
  exact .either (afterDelim_sat ⟨Nat.le_trans hs l1, Nat.le_succ_of_le l1, hlt2⟩ e1) more

theorem groupEnd_sat (cls err : Nat) :
    Sat (groupEnd cls err inp i c) (fun r => Post inp.size st c0 (min (i + 1) inp.size) (r.1, r.2.1)) := by
  unfold groupEnd
  refine .seq (space_sat hs hi he) fun r ⟨h1, h2, e1⟩ => ?_
  refine .ite (fun hend => .pure (.ret (hend ▸ Nat.min_le_right ..) h2 e1)) fun hne => ?_
  have s1 : st ≤ r.1 := Nat.le_trans hs h1
  have hlt : r.1 < inp.size := Nat.lt_of_le_of_ne h2 hne
  have m1 : min (i + 1) inp.size ≤ r.1 + 1 := Nat.le_trans (Nat.min_le_left ..) (Nat.succ_le_succ h1)
  refine .rd hlt ?_
  refine .either ?_ ?_
  · refine .either (.pure (.errMoved s1 h2 e1 _)) ?_
    exact afterDelim_sat ⟨s1, m1, hlt⟩ e1
  refine .seq (space_sat (Nat.le_succ_of_le s1) hlt e1) fun r2 ⟨h3, h4, e2⟩ => ?_
  have s2 : st ≤ r2.1 := Nat.le_trans (Nat.le_succ_of_le s1) h3
  refine .atEnd h4 (.pure (.errMoved s2 h4 e2 _)) fun hlt2 => ?_
  refine .either (afterDelim_sat ⟨s2, Nat.le_trans m1 (Nat.le_succ_of_le h3), hlt2⟩ e2) ?_
  exact .pure (.moved (Nat.lt_of_le_of_lt h1 h3) h4 e2)

theorem skipConstant_sat : Sat (skipConstant inp i c) (Post inp.size st c0 i) := by
  refine iter_fwd (·.1) i inp.size (fun s => ErrOk inp.size st c0 s.2) (fun s hl hn e => ?_) (Nat.le_refl i) hi he (Nat.lt_succ_self _)
  unfold skipConstStep
  refine .notEnd hn (fun hlt => ?_) (.pure ⟨hl, hn, e⟩)
  refine .either (.pure ⟨Nat.lt_succ_self s.1, hlt, e⟩) ?_
  refine .seq (space_sat (Nat.le_trans hs hl) hn e) fun r ⟨h1, h2, e1⟩ => ?_
  refine .ite (fun _ => .pure ⟨Nat.le_trans hl h1, h2, e1⟩) fun hne => ?_
  exact .pure ⟨Nat.lt_of_le_of_ne h1 (Ne.symm hne), h2, e1⟩

theorem numTail_sat : Sat (numTail inp i c) (Post inp.size st c0 i) := by
  have bad := Sat.pure (Post.err hi hs hi he E_invalid_numeric)
  unfold numTail
  refine .notEnd hi (fun _ => ?_) bad
  exact .either (.pure (.ret (Nat.le_refl i) hi he)) bad

/-- a digit at `j`, more digits, then `k`: the fraction of `numFrac` (`j := i + 1`, `k := (numExp inp · c)`; the model's `i + 2` is
`j + 1` by evaluation) and the `fun i2 => …` of `numExp2` applied to the position behind the sign (`k := (numTail inp · c)`; equal
after β). `(slt d 48 || sgt d 57) = true` is how the model's `if` on a `Bool` elaborates. -/
theorem digits_sat {j : Nat} (hj : i ≤ j ∧ j ≤ inp.size) {k : Nat → M (Nat × Ctx)}
    (hk : ∀ j', j < j' → j' ≤ inp.size → Sat (k j') (Post inp.size st c0 i)) :
    Sat (if j = inp.size then Except.ok (setError c j inp.size E_invalid_numeric) else
      rd inp j >>= fun d =>
      if (slt d 48 || sgt d 57) = true then Except.ok (setError c j inp.size E_invalid_numeric) else
      scanWhile isDigit inp (j + 1) >>= k) (Post inp.size st c0 i) := by
  have bad := Sat.pure (Post.err hi (Nat.le_trans hs hj.1) hj.2 he E_invalid_numeric)
  refine .atEnd hj.2 bad fun hlt => ?_
  refine .either bad ?_
  exact .seq (scanWhile_sat isDigit hlt) fun j' h => hk j' h.1 h.2.1

theorem numExp_sat : Sat (numExp inp i c) (Post inp.size st c0 i) := by
  have tail := numTail_sat hs hi he
  unfold numExp
  refine .notEnd hi (fun hlt => ?_) tail
  refine .either ?_ tail
  unfold numExp2
  refine .atEnd hlt (.pure (.err hi (Nat.le_succ_of_le hs) hlt he _)) fun hlt2 => ?_
  generalize hp : (if byteAt inp (i + 1) = 43 ∨ byteAt inp (i + 1) = 45 then i + 1 + 1 else i + 1) = p
  replace hp : i ≤ p ∧ p ≤ inp.size := by
    subst hp
    split
    · exact ⟨Nat.le_add_right i 2, hlt2⟩
    · exact ⟨Nat.le_succ i, hlt⟩
  refine digits_sat hs hi he hp fun j' h1 h2 => ?_
  have lj : i ≤ j' := Nat.le_trans hp.1 (Nat.le_of_lt h1)
  exact .mono (numTail_sat (Nat.le_trans hs lj) h2 he) fun x hx => hx.weaken lj

theorem numFrac_sat : Sat (numFrac inp i c) (Post inp.size st c0 i) := by
  have exp := numExp_sat hs hi he
  unfold numFrac
  refine .notEnd hi (fun hlt => ?_) exp
  refine .either ?_ exp
  refine digits_sat hs hi he ⟨Nat.le_succ i, hlt⟩ fun j' h1 h2 => ?_
  have lj : i ≤ j' := Nat.le_of_succ_le (Nat.le_of_lt h1)
  exact .mono (numExp_sat (Nat.le_trans hs lj) h2 he) fun x hx => hx.weaken lj

theorem number_sat : Sat (number inp i c) (Post inp.size st c0 (min (i + 1) inp.size)) := by
  -- from `if (*buf == '0')` on, at `j = i` or behind the sign
  have int {j : Nat} (hj : i ≤ j ∧ j < inp.size) : Sat (numInt inp j c) (Post inp.size st c0 (min (i + 1) inp.size)) := by
    have frac {j' : Nat} (h : i < j' ∧ j' ≤ inp.size) : Sat (numFrac inp j' c) (Post inp.size st c0 (min (i + 1) inp.size)) :=
      .mono (numFrac_sat (Nat.le_trans hs (Nat.le_of_lt h.1)) h.2 he) fun x hx => hx.weaken (Nat.le_trans (Nat.min_le_left _ _) h.1)
    unfold numInt
    refine .rd hj.2 ?_
    refine .either (frac ⟨Nat.lt_succ_of_le hj.1, hj.2⟩) ?_
    refine .either (.pure (.errMoved (Nat.le_trans hs hj.1) (Nat.le_of_lt hj.2) he _)) ?_
    exact .seq (scanWhile_sat isDigit hj.2) fun j' h => frac ⟨Nat.lt_of_le_of_lt hj.1 h.1, h.2.1⟩
  unfold number
  refine .ite (fun hend => ?_) fun hne => ?_
  · subst hend
    exact .pure (.ret (Nat.min_le_right _ _) hi he)
  have hlt : i < inp.size := Nat.lt_of_le_of_ne hi hne
  refine .rd hlt ?_
  refine .either ?_ (int ⟨Nat.le_refl i, hlt⟩)
  refine .ite (fun _ => .pure (.errMoved (Nat.le_succ_of_le hs) hlt he _)) fun hne1 => ?_
  exact int ⟨Nat.le_succ i, Nat.lt_of_le_of_ne hlt hne1⟩

end

section
variable {inp : Array Nat} {st : Nat} {c0 : Ctx}

theorem gStrLoop_sat {i0 fuel : Nat} {s : Nat × Ctx} (h : Post inp.size st c0 i0 s) (hs : st ≤ i0) (hf : inp.size - s.1 < fuel) :
    Sat (iter (gStrStep inp) fuel s) (Post inp.size st c0 i0) := by
  refine iter_fwd (·.1) i0 inp.size (fun s => ErrOk inp.size st c0 s.2) (fun s hl hn e => ?_) h.1 h.2.1 h.2.2 hf
  unfold gStrStep
  refine .notEnd hn (fun hlt => ?_) (.pure ⟨hl, hn, e⟩)
  refine .either ?_ (.pure ⟨hl, hn, e⟩)
  have ss : st ≤ s.1 := Nat.le_trans hs hl
  refine .seq (stringPart_sat ss hn e) fun r ⟨h5, h6, e1⟩ => ?_
  -- `string_escape` moves or is at the end, so the round moves
  have esc : Sat (stringEscape inp r.1 r.2 >>= fun r2 => Except.ok (Next.cont r2))
      (NextP (fun s' => s.1 < s'.1 ∧ s'.1 ≤ inp.size ∧ ErrOk inp.size st c0 s'.2) (Post inp.size st c0 i0)) := by
    refine .seq (stringEscape_sat (Nat.le_trans ss h5) h6 e1) fun r2 hr2 => ?_
    exact .pure (hr2.lower (Nat.succ_le_succ h5) hlt)
  refine .notEnd h6 (fun _ => ?_) esc
  exact .either (.pure ⟨Nat.le_trans hl h5, h6, e1⟩) esc

variable {i : Nat} {c : Ctx} (hs : st ≤ i) (hi : i ≤ inp.size) (he : ErrOk inp.size st c0 c)
include hs hi he

theorem gString_sat : Sat (gString inp i c) (Post inp.size st c0 (min (i + 1) inp.size)) := by
  unfold gString gStringF
  refine .seq (stringStart_sat hs hi he) fun r hr => ?_
  -- the loop only needs to stay right of `i`: `stringEnd` moves again, which gives `min (i + 1) size` back
  have hr' : Post inp.size st c0 i r := hr.lower (Nat.le_succ i) hi
  have hf := Nat.lt_succ_of_le (Nat.sub_le_sub_left hr'.1 inp.size)
  refine .seq (gStrLoop_sat hr' hs hf) fun r2 ⟨h3, h4, e2⟩ => ?_
  have m2 : min (i + 1) inp.size ≤ r2.1 + 1 := Nat.le_trans (Nat.min_le_left _ _) (Nat.succ_le_succ h3)
  exact .mono (stringEnd_sat (Nat.le_trans hs h3) h4 e2) fun r3 hr3 => hr3.lower m2 (Nat.min_le_right _ _)

theorem gField_sat : Sat (gField inp i c) (NextP (fun r => Post inp.size st c0 i r ∧ r.1 < inp.size) (Post inp.size st c0 i)) := by
  unfold gField
  refine .seq (symbolStart_sat hs hi he) fun r1 ⟨a1, a2, e1⟩ => ?_
  refine .seq (symbolEnd_sat (Nat.le_trans hs a1) a2 e1) fun r2 ⟨b1, b2, e2⟩ => ?_
  have l2 : i ≤ r2.1 := Nat.le_trans a1 b1
  refine .seq (space_sat (Nat.le_trans hs l2) b2 e2) fun r3 ⟨d1, d2, e3⟩ => ?_
  have l3 : i ≤ r3.1 := Nat.le_trans l2 d1
  have s3 : st ≤ r3.1 := Nat.le_trans hs l3
  refine .atEnd d2 (.pure (.err hi s3 d2 e3 _)) fun hlt => ?_
  refine .either (.pure (.err hi s3 d2 e3 _)) ?_
  refine .seq (space_sat (Nat.le_succ_of_le s3) hlt e3) fun r4 ⟨f1, f2, e4⟩ => ?_
  have l4 : i ≤ r4.1 := Nat.le_trans l3 (Nat.le_of_succ_le f1)
  refine .ite (fun _ => .pure (.err hi (Nat.le_trans hs l4) f2 e4 _)) fun hne => ?_
  exact .pure ⟨⟨l4, f2, e4⟩, Nat.lt_of_le_of_ne f2 hne⟩

end

/-- what the state machine of `generic_json` keeps besides its position: the error discipline and `sp ≤ spend` -/
def GOk (inp : Array Nat) (st : Nat) (c0 : Ctx) (s : GState) : Prop := ErrOk inp.size st c0 s.c ∧ s.stk.length ≤ MAX_NEST

abbrev GNext (inp : Array Nat) (st : Nat) (c0 : Ctx) (i0 i : Nat) : Next GState (Nat × Ctx) → Prop :=
  NextP (fun s' => i < s'.i ∧ s'.i ≤ inp.size ∧ GOk inp st c0 s') (Post inp.size st c0 i0)

theorem peek_sat {stk : List Nat} (h : stk.length ≠ 0) : Sat (peek stk) (fun _ => True) := by
  cases stk with
  | nil => simp at h
  | cons t r => exact ⟨t, rfl, trivial⟩

section
variable {inp : Array Nat} {st : Nat} {c0 : Ctx} {i0 i : Nat} {stk : List Nat} {c : Ctx}
  (hs : st ≤ i0) (h0 : i0 ≤ i) (he : ErrOk inp.size st c0 c) (hk : stk.length ≤ MAX_NEST)
include hs h0 he hk

theorem gOpen_sat (cls : Nat) (hi : i < inp.size) : Sat (gOpen inp i stk c cls) (GNext inp st c0 i0 i) := by
  have si : st ≤ i := Nat.le_trans hs h0
  have li : i ≤ inp.size := Nat.le_of_lt hi
  unfold gOpen
  refine .ite (fun _ => .pure (.err (Nat.le_trans h0 li) si li he _)) fun hne => ?_
  have hlt : stk.length < MAX_NEST := Nat.lt_of_le_of_ne hk hne
  have hpush : Sat (push stk cls) (fun s' => s'.length ≤ MAX_NEST) := by
    unfold push; rw [if_pos hlt]; exact .pure (Nat.succ_le_of_lt hlt)
  refine .seq hpush fun stk' hk' => ?_
  refine .seq (space_sat (Nat.le_succ_of_le si) hi he) fun r ⟨a1, a2, e1⟩ => ?_
  have go (b : Bool) : Sat (Except.ok (Next.cont ⟨b, r.1, stk', r.2⟩) : M _) (GNext inp st c0 i0 i) :=
    .pure ⟨a1, a2, e1, hk'⟩
  refine .notEnd a2 (fun _ => ?_) (go _)
  exact .either (go _) (go _)

theorem gSwitch_sat (hi : i < inp.size) : Sat (gSwitch inp i stk c) (GNext inp st c0 i0 i) := by
  have go {r : Nat × Ctx} (hr : Post inp.size st c0 (i + 1) r) :
      Sat (Except.ok (Next.cont ⟨false, r.1, stk, r.2⟩) : M _) (GNext inp st c0 i0 i) :=
    .pure ⟨hr.1, hr.2.1, hr.2.2, hk⟩
  have si : st ≤ i := Nat.le_trans hs h0
  have li : i ≤ inp.size := Nat.le_of_lt hi
  unfold gSwitch
  refine .rd hi ?_
  refine .either (.seq (gString_sat si li he) fun r hr => go (hr.lower (Nat.le_refl _) hi)) ?_
  refine .either (.seq (number_sat si li he) fun r hr => go (hr.lower (Nat.le_refl _) hi)) ?_
  refine .either (gOpen_sat hs h0 he hk 93 hi) ?_
  refine .either (gOpen_sat hs h0 he hk 125 hi) ?_
  refine .seq (skipConstant_sat si li he) fun r ⟨a1, a2, e1⟩ => ?_
  refine .ite (fun _ => .pure (.err (Nat.le_trans h0 li) (Nat.le_trans si a1) a2 e1 _)) fun hne => ?_
  exact go ⟨Nat.lt_of_le_of_ne a1 (Ne.symm hne), a2, e1⟩

theorem gAgain_sat (hi : i ≤ inp.size) : Sat (gAgain inp i stk c) (GNext inp st c0 i0 i) := by
  unfold gAgain
  refine .ite (fun _ => .pure (.ret h0 hi he)) fun hne => ?_
  have sw := gSwitch_sat hs h0 he hk (Nat.lt_of_le_of_ne hi hne)
  refine .ite (fun hne => ?_) fun _ => sw
  refine .seq (peek_sat hne) fun t _ => ?_
  refine .either ?_ sw
  refine .seq (gField_sat (Nat.le_trans hs h0) hi he) fun x hx => ?_
  cases x with
  | done r => exact .pure (hx.weaken h0)
  | cont r =>
    -- the switch runs behind the field name, at `r.1 ≥ i`
    refine .mono (gSwitch_sat hs (Nat.le_trans h0 hx.1.1) hx.1.2.2 hk hx.2) ?_
    exact NextP.mono (fun s' h => ⟨Nat.lt_of_le_of_lt hx.1.1 h.1, h.2⟩) fun _ h => h

theorem gClose_sat (hi : i ≤ inp.size) : Sat (gClose inp i stk c) (GNext inp st c0 i0 i) := by
  have si : st ≤ i := Nat.le_trans hs h0
  unfold gClose
  refine .ite (fun hc => ?_) fun _ => ?_
  · have hlt : i < inp.size := Nat.lt_of_le_of_ne hi hc.1
    refine .seq (peek_sat hc.2) fun t _ => ?_
    refine .seq (P := fun r => Post inp.size st c0 (i + 1) (r.1, r.2.1)) ?_ fun r hr => ?_
    · refine .either ?_ ?_
      · exact .mono (groupEnd_sat si hi he 93 E_unbalanced_array) fun _ h => h.lower (Nat.le_refl _) hlt
      · exact .mono (groupEnd_sat si hi he 125 E_unbalanced_object) fun _ h => h.lower (Nat.le_refl _) hlt
    · have htl : stk.tail.length ≤ MAX_NEST := Nat.le_trans (List.tail_sublist stk).length_le hk
      exact .either (.pure ⟨hr.1, hr.2.1, hr.2.2, hk⟩) (.pure ⟨hr.1, hr.2.1, hr.2.2, htl⟩)
  · refine .ite (fun hc => ?_) fun _ => .pure (.ret h0 hi he)
    refine .seq (peek_sat hc.2) fun t _ => ?_
    exact .pure (.err (Nat.le_trans h0 hi) si hi he _)

end

section
variable {inp : Array Nat} {st : Nat} {c0 : Ctx} {i : Nat}

theorem gStep_sat {s : GState} (hs : st ≤ i) (hl : i ≤ s.i) (hn : s.i ≤ inp.size) (hc : GOk inp st c0 s) :
    Sat (gStep inp s) (GNext inp st c0 i s.i) := by
  unfold gStep
  exact .either (gAgain_sat hs hl hc.1 hc.2 hn) (gClose_sat hs hl hc.1 hc.2 hn)

variable {c : Ctx} (hs : st ≤ i) (hi : i ≤ inp.size) (he : ErrOk inp.size st c0 c)
include hs hi he

theorem generic_sat : Sat (generic inp i c) (Post inp.size st c0 i) :=
  iter_fwd (·.i) i inp.size (GOk inp st c0) (fun _ hl hn hc => gStep_sat hs hl hn hc) (Nat.le_refl i) hi ⟨he, Nat.zero_le _⟩
    (Nat.lt_succ_self _)

theorem unmatchedSymbol_sat : Sat (unmatchedSymbol inp i c) (Post inp.size st c0 i) := by
  unfold unmatchedSymbol
  refine .either ?_ (.pure (.err hi hs hi he _))
  refine .seq (symbolEnd_sat hs hi he) fun r1 ⟨a1, a2, e1⟩ => ?_
  refine .seq (space_sat (Nat.le_trans hs a1) a2 e1) fun r2 ⟨b1, b2, e2⟩ => ?_
  have l2 : i ≤ r2.1 := Nat.le_trans a1 b1
  have s2 : st ≤ r2.1 := Nat.le_trans hs l2
  have bad := Sat.pure (Post.err hi s2 b2 e2 E_expected_colon)
  refine .notEnd b2 (fun hlt => ?_) bad
  refine .either ?_ bad
  refine .seq (space_sat (Nat.le_succ_of_le s2) hlt e2) fun r3 ⟨d1, d2, e3⟩ => ?_
  have l3 : i ≤ r3.1 := Nat.le_trans l2 (Nat.le_of_succ_le d1)
  exact .mono (generic_sat (Nat.le_trans hs l3) d2 e3) fun x hx => hx.weaken l3

end

/-- what a caller learns about a result `(p, c')` of a scanner started at `i` with context `c` in an input of `n` bytes
(`Scans.inRange`): `p` lies in `[i, n]`; an error recorded by this call has its location in `[i, n]`; an earlier error is kept.
It is `Post n i c i (p, c')` spelled out. -/
def InRange (n i : Nat) (c : Ctx) (p : Nat) (c' : Ctx) : Prop :=
  i ≤ p ∧ p ≤ n ∧
  (c.error = 0 → c'.error ≠ 0 → i ≤ c'.errorLoc ∧ c'.errorLoc ≤ n) ∧
  (c.error ≠ 0 → c'.error = c.error ∧ c'.errorLoc = c.errorLoc)

/-- the contract of a scanner `f` (`π` picks position and context from its result): the common shape of the `_sat` lemmas.
The ghosts `st`, `c0` are there for composition; a caller takes `st := i`, `c0 := c` and gets `InRange` (`Scans.top`). -/
def Scans {α : Type} (π : α → Nat × Ctx) (f : Array Nat → Nat → Ctx → M α) : Prop :=
  ∀ inp st c0 i c, st ≤ i → i ≤ inp.size → ErrOk inp.size st c0 c → Sat (f inp i c) (fun r => Post inp.size st c0 i (π r))

section
variable {α : Type} {π : α → Nat × Ctx} {f : Array Nat → Nat → Ctx → M α} {inp : Array Nat} {i : Nat}

theorem Scans.of (h : ∀ {inp st c0 i c}, st ≤ i → i ≤ inp.size → ErrOk inp.size st c0 c →
    Sat (f inp i c) (fun r => Post inp.size st c0 i (π r))) : Scans π f :=
  fun _ _ _ _ _ => h

theorem Scans.ofMoved (h : ∀ {inp st c0 i c}, st ≤ i → i ≤ inp.size → ErrOk inp.size st c0 c →
    Sat (f inp i c) (fun r => Post inp.size st c0 (min (i + 1) inp.size) (π r))) : Scans π f :=
  fun _ _ _ _ _ hs hi he => (h hs hi he).mono fun _ hr => hr.lower (Nat.le_succ _) hi

theorem Scans.top (h : Scans π f) (c : Ctx) (hi : i ≤ inp.size) :
    Sat (f inp i c) (fun r => InRange inp.size i c (π r).1 (π r).2) :=
  h inp i c i c (Nat.le_refl i) hi (ErrOk.refl _ _ c)

theorem Scans.no_oob (h : Scans π f) (c : Ctx) (hi : i ≤ inp.size) : f inp i c ≠ .error .oob := (h.top c hi).ne_error _

theorem Scans.terminates (h : Scans π f) (c : Ctx) (hi : i ≤ inp.size) : ∃ r, f inp i c = .ok r := (h.top c hi).imp fun _ h => h.1

theorem Scans.inRange (h : Scans π f) {c : Ctx} (hi : i ≤ inp.size) {r : α} (e : f inp i c = .ok r) :
    InRange inp.size i c (π r).1 (π r).2 := by
  obtain ⟨x, hx, hp⟩ := h.top c hi
  rw [e] at hx; cases hx; exact hp
end

theorem space_scans : Scans id space := .of space_sat
theorem spaceExt_scans : Scans id spaceExt := .of spaceExt_sat
theorem number_scans : Scans id number := .ofMoved number_sat
theorem skipConstant_scans : Scans id skipConstant := .of skipConstant_sat
theorem unmatchedSymbol_scans : Scans id unmatchedSymbol := .of unmatchedSymbol_sat
theorem generic_scans : Scans id generic := .of generic_sat
theorem symbolStart_scans : Scans id symbolStart := .of symbolStart_sat
theorem symbolEnd_scans : Scans id symbolEnd := .of symbolEnd_sat
theorem constantStart_scans : Scans id constantStart := .of constantStart_sat
theorem stringStart_scans : Scans id stringStart := .ofMoved stringStart_sat
theorem stringEnd_scans : Scans id stringEnd := .ofMoved stringEnd_sat
theorem stringPart_scans : Scans id stringPart := .of stringPart_sat
theorem stringEscape_scans : Scans id stringEscape := .ofMoved stringEscape_sat
theorem groupStart_scans (opn cls err : Nat) : Scans (fun r => (r.1, r.2.1)) (groupStart opn cls err) :=
  .of fun hs hi he => groupStart_sat hs hi he _ _ _
theorem groupEnd_scans (cls err : Nat) : Scans (fun r => (r.1, r.2.1)) (groupEnd cls err) :=
  .ofMoved fun hs hi he => groupEnd_sat hs hi he _ _

section
variable (inp : Array Nat) (i : Nat) (c : Ctx) (hi : i ≤ inp.size)
include hi

theorem objectStart_pos_in_range (p : Nat) (c' : Ctx) (more : Bool) (h : objectStart inp i c = .ok (p, c', more)) : InRange inp.size i c p c' :=
  (groupStart_scans _ _ _).inRange hi h
theorem arrayStart_pos_in_range (p : Nat) (c' : Ctx) (more : Bool) (h : arrayStart inp i c = .ok (p, c', more)) : InRange inp.size i c p c' :=
  (groupStart_scans _ _ _).inRange hi h
theorem objectEnd_pos_in_range (p : Nat) (c' : Ctx) (more : Bool) (h : objectEnd inp i c = .ok (p, c', more)) : InRange inp.size i c p c' :=
  (groupEnd_scans _ _).inRange hi h
theorem arrayEnd_pos_in_range (p : Nat) (c' : Ctx) (more : Bool) (h : arrayEnd inp i c = .ok (p, c', more)) : InRange inp.size i c p c' :=
  (groupEnd_scans _ _).inRange hi h

theorem spaceExt_fuel_enough (extra : Nat) : spaceExtF (inp.size - i + 1 + extra) inp i c = spaceExt inp i c :=
  FuelMono.enough (F := fun f => spaceExtF f inp i c) (.bind (.const _) fun _ => .ite (.const _) (.iter _ _))
    (spaceExt_scans.top c hi) extra

theorem symbolEnd_fuel_enough (extra : Nat) : symbolEndF (inp.size - i + 1 + extra) inp i c = symbolEnd inp i c :=
  FuelMono.enough (F := fun f => symbolEndF f inp i c)
    (.ite (.bind (.iter _ _) fun _ => .const _) (.bind (.iter _ _) fun _ => .const _)) (symbolEnd_scans.top c hi) extra

theorem skipConstant_fuel_enough (extra : Nat) : skipConstantF (inp.size - i + 1 + extra) inp i c = skipConstant inp i c :=
  (FuelMono.iter _ _).enough (skipConstant_scans.top c hi) extra

theorem generic_fuel_enough (extra : Nat) : genericF (inp.size - i + 1 + extra) inp i c = generic inp i c :=
  (FuelMono.iter _ _).enough (generic_scans.top c hi) extra

theorem gString_fuel_enough (extra : Nat) : gStringF (inp.size - i + 1 + extra) inp i c = gString inp i c :=
  FuelMono.enough (F := fun f => gStringF f inp i c) (.bind (.const _) fun _ => .bind (.iter _ _) fun _ => .const _)
    (gString_sat (Nat.le_refl i) hi (ErrOk.refl _ _ c)) extra

/-- pushes and reads outside `stack[MAX_NEST]` would moreover be `.oob`, excluded by `generic_scans.no_oob` -/
theorem generic_reach (s : GState) (h : Reach (gStep inp) ⟨true, i, [], c⟩ s) :
    s.stk.length ≤ MAX_NEST ∧ i ≤ s.i ∧ s.i ≤ inp.size := by
  have inv : i ≤ s.i ∧ s.i ≤ inp.size ∧ GOk inp i c s := by
    refine Reach.inv (Inv := fun s => i ≤ s.i ∧ s.i ≤ inp.size ∧ GOk inp i c s) (fun s s' ⟨hl, hn, hc⟩ e => ?_)
      ⟨Nat.le_refl i, hi, ErrOk.refl _ _ c, Nat.zero_le _⟩ h
    obtain ⟨x, hx, hq⟩ := gStep_sat (Nat.le_refl i) hl hn hc
    rw [e] at hx; cases hx
    exact ⟨Nat.le_of_lt (Nat.lt_of_le_of_lt hl hq.1), hq.2⟩
  exact ⟨inv.2.2.2, inv.1, inv.2.1⟩

end

/-! ### sanity: the guarded reads do catch an off-by-one

`escU` with `end - buf < 5` instead of `< 6`: the model answers `.oob` for the 5 bytes `\u00e`. -/
def escU_mutant (inp : Array Nat) (i : Nat) (c : Ctx) : M (Nat × Ctx) :=
  if inp.size - i < 5 then .ok (setError c i inp.size E_invalid_escape) else
  decodeHex4 inp (i + 2) >>= fun u =>
  if u.isNone then .ok (setError c i inp.size E_invalid_escape) else escPair inp i c (u.getD 0)

example : escU_mutant #[92, 117, 48, 48, 101] 0 {} = .error .oob := by rfl
example : escU #[92, 117, 48, 48, 101] 0 {} = .ok (5, { error := E_invalid_escape, pos := 1, errorLoc := 0 }) := by rfl
example : rd #[32] 1 = .error .oob := by rfl

end Flatcc.JsonScan
