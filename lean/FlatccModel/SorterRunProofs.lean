import FlatccModel.SorterRun
import FlatccModel.SortableProofs
/-! With the marks of `mark_sortable`, the generated sorters do what the sorter that skips nothing does: a type without a
sorter would skip every member of its own. -/
namespace Flatcc.Sortable

theorem sortFields_unmarked (S : Schema) (st : Val → Val) (mk : Nat → Bool) :
    ∀ (ds : List FieldD) (fs : List Val), NoSort ds → NoMark mk ds → sortFields S st mk ds fs = fs
  | _, [] => fun _ _ => by simp [sortFields]
  | [], _ :: _ => fun _ _ => by simp [sortFields]
  | d :: ds, f :: fs => fun hs hk => by
    have hs' : NoSort ds := fun d' hd' => hs d' (List.mem_cons_of_mem _ hd')
    have hk' : NoMark mk ds := fun d' hd' => hk d' (List.mem_cons_of_mem _ hd')
    rw [sortFields, sortFields_unmarked S st mk ds fs hs' hk']
    congr 1
    cases hdep : d.dep with
    | true => simp
    | false =>
      simp only [Bool.false_eq_true, if_false, hs d (List.mem_cons_self ..) hdep]
      cases htg : d.target with
      | none => rfl
      | some g => simp only [hk d (List.mem_cons_self ..) hdep g htg, Bool.false_eq_true, if_false]

mutual
/-- why a type without a sorter needs none: it would skip every member -/
theorem sortVal_unmarked (S : Schema) (st : Val → Val) (mk : Nat → Bool) (h : MarksOK S mk) :
    ∀ (v : Val) (t : Nat), mk t = false → confVal S t v = true → sortVal S st mk v = v
  | .leaf xs => fun _ _ _ => by simp [sortVal]
  | .node ty fs => fun t hm hc => by
    -- `confVal S t (.node ty fs)` computes to `ty == t && confFields ..`; likewise below
    obtain rfl := eq_of_beq (Bool.and_eq_true_iff.1 hc).1
    rw [sortVal, sortFields_unmarked S st mk _ fs (h.nodirect ty hm) (h.closed ty hm)]
  | .many ks => fun t hm hc => by
    rw [sortVal, sortList_unmarked S st mk h ks t hm hc]
theorem sortList_unmarked (S : Schema) (st : Val → Val) (mk : Nat → Bool) (h : MarksOK S mk) :
    ∀ (ks : List Val) (t : Nat), mk t = false → confList S t ks = true → sortList S st mk ks = ks
  | [] => fun _ _ _ => by simp [sortList]
  | k :: ks => fun t hm hc => by
    have hc := Bool.and_eq_true_iff.1 hc
    rw [sortList, sortVal_unmarked S st mk h k t hm hc.1, sortList_unmarked S st mk h ks t hm hc.2]
end

mutual
theorem skip_eq_val (S : Schema) (st : Val → Val) (mk : Nat → Bool) (h : MarksOK S mk) :
    ∀ (v : Val) (t : Nat), confVal S t v = true → sortVal S st mk v = sortVal S st (fun _ => true) v
  | .leaf xs => fun _ _ => by simp [sortVal]
  | .node ty fs => fun t hc => by
    simp only [sortVal, skip_eq_fields S st mk h (S.getD ty []) fs (Bool.and_eq_true_iff.1 hc).2]
  | .many ks => fun t hc => by
    simp only [sortVal, skip_eq_list S st mk h ks t hc]
theorem skip_eq_list (S : Schema) (st : Val → Val) (mk : Nat → Bool) (h : MarksOK S mk) :
    ∀ (ks : List Val) (t : Nat), confList S t ks = true → sortList S st mk ks = sortList S st (fun _ => true) ks
  | [] => fun _ _ => by simp [sortList]
  | k :: ks => fun t hc => by
    have hc := Bool.and_eq_true_iff.1 hc
    simp only [sortList, skip_eq_val S st mk h k t hc.1, skip_eq_list S st mk h ks t hc.2]
theorem skip_eq_fields (S : Schema) (st : Val → Val) (mk : Nat → Bool) (h : MarksOK S mk) :
    ∀ (ds : List FieldD) (fs : List Val), confFields S ds fs = true →
      sortFields S st mk ds fs = sortFields S st (fun _ => true) ds fs
  | _, [] => fun _ => by simp [sortFields]
  | [], _ :: _ => fun _ => by simp [sortFields]
  | d :: ds, f :: fs => fun hc => by
    obtain ⟨hcf, hc⟩ := Bool.and_eq_true_iff.1 hc
    rw [sortFields, sortFields, skip_eq_fields S st mk h ds fs hc]
    congr 1
    cases htg : d.target with
    | none => rfl
    | some g =>
      rw [htg] at hcf
      -- if `g` has no sorter, the generated run leaves `f` alone, and by induction so does the full one
      rw [← skip_eq_val S st mk h f g hcf]
      dsimp only
      cases hg : mk g with
      | true => rfl
      | false => rw [sortVal_unmarked S st mk h f g hg hcf]; rfl
end

theorem full_id_val (S : Schema) (st : Val → Val) (mk : Nat → Bool) (h : MarksOK S mk) :
    ∀ (v : Val) (t : Nat), mk t = false → confVal S t v = true → sortVal S st (fun _ => true) v = v :=
  fun v t hm hc => (skip_eq_val S st mk h v t hc).symm.trans (sortVal_unmarked S st mk h v t hm hc)

theorem full_id_list (S : Schema) (st : Val → Val) (mk : Nat → Bool) (h : MarksOK S mk) :
    ∀ (ks : List Val) (t : Nat), mk t = false → confList S t ks = true → sortList S st (fun _ => true) ks = ks :=
  fun ks t hm hc => (skip_eq_list S st mk h ks t hc).symm.trans (sortList_unmarked S st mk h ks t hm hc)

theorem full_id_fields (S : Schema) (st : Val → Val) (mk : Nat → Bool) (h : MarksOK S mk) :
    ∀ (ds : List FieldD) (fs : List Val), NoSort ds → NoMark mk ds → confFields S ds fs = true →
      sortFields S st (fun _ => true) ds fs = fs :=
  fun ds fs hs hk hc => (skip_eq_fields S st mk h ds fs hc).symm.trans (sortFields_unmarked S st mk ds fs hs hk)

theorem marksOK_of_markSortable (S : Schema) (r : Marks) (h : markSortable (S.map toTy) = some r) :
    MarksOK S (get r) := by
  have hr := (markSortable_iff_reach _ r h).2
  have hun : ∀ t, get r t = false → ¬ Reach (S.map toTy) t := fun t hm hR => by
    rw [(hr t).mpr hR] at hm
    cases hm
  have hty : ∀ t d, d ∈ S.getD t [] → (S.map toTy)[t]? = some (toTy (S.getD t [])) := by
    intro t d hd
    rcases Nat.lt_or_ge t S.length with hlt | hge
    · rw [List.getElem?_map, List.getD, List.getElem?_eq_getElem hlt]
      rfl
    · simp [List.getD, List.getElem?_eq_none hge] at hd
  constructor
  · intro t hm d hd hdep
    refine Bool.eq_false_iff.2 fun hs => hun t hm (Reach.direct (hty t d hd) ?_)
    simp only [toTy, List.any_eq_true]
    exact ⟨d, hd, by simp [hdep, hs]⟩
  · intro t hm d hd hdep g hg
    refine Bool.eq_false_iff.2 fun hmg => hun t hm (Reach.step (hty t d hd) ?_ ((hr g).mp hmg))
    simp only [toTy, List.mem_filterMap]
    exact ⟨d, hd, by simp [hdep, hg]⟩

mutual
theorem sort_id_val (S : Schema) (mk : Nat → Bool) : ∀ (v : Val), sortVal S (fun x => x) mk v = v
  | .leaf xs => by simp [sortVal]
  | .node ty fs => by simp only [sortVal]; rw [sort_id_fields S mk (S.getD ty []) fs]
  | .many ks => by simp only [sortVal]; rw [sort_id_list S mk ks]
theorem sort_id_list (S : Schema) (mk : Nat → Bool) : ∀ (ks : List Val), sortList S (fun x => x) mk ks = ks
  | [] => by simp [sortList]
  | k :: ks => by simp only [sortList]; rw [sort_id_val S mk k, sort_id_list S mk ks]
theorem sort_id_fields (S : Schema) (mk : Nat → Bool) : ∀ (ds : List FieldD) (fs : List Val),
    sortFields S (fun x => x) mk ds fs = fs
  | _, [] => by simp [sortFields]
  | [], _ :: _ => by simp [sortFields]
  | d :: ds, f :: fs => by
    simp only [sortFields]
    rw [sort_id_fields S mk ds fs, sort_id_val S mk f]
    congr 1
    cases d.target <;> simp
end

end Flatcc.Sortable
