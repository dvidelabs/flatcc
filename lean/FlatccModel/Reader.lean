import FlatccModel.Verifier
/-!
# Generated reader (`codegen_c_reader.c` → `flatbuffers_common_reader.h`): the reads it makes

For every accessor of the generated reader API the model lists the memory accesses
`(offset from buffer start, length, required alignment)` it performs — unguarded, exactly as the C
macros do (`__flatbuffers_read_vt`, `__flatbuffers_offset_field`, `*_vec_len`, `*_vec_at`,
`flatbuffers_string_len` + the bytes of the string including its terminator, union type/value,
union vector elements).  Pointer arithmetic is 64-bit (no wrap): positions are plain `Nat`.
`tableAcc` walks everything reachable from a table through every accessor.
-/
namespace Flatcc.Verifier

structure Access where
  addr : Nat
  len : Nat
  align : Nat
  deriving Repr, DecidableEq

/-- inside the buffer and aligned for its type at its absolute address -/
def Safe (c : Ctx) (a : Access) : Prop := a.addr + a.len ≤ c.n ∧ (c.A + a.addr) % a.align = 0

/-- unguarded little-endian reads -/
def r8 (c : Ctx) (i : Nat) : Nat := c.buf i % 256
def r16 (c : Ctx) (i : Nat) : Nat := c.buf i % 256 + 256 * (c.buf (i+1) % 256)
def r32 (c : Ctx) (i : Nat) : Nat :=
  c.buf i % 256 + 256 * (c.buf (i+1) % 256) + 65536 * (c.buf (i+2) % 256) + 16777216 * (c.buf (i+3) % 256)

/-- vtable position as `__flatbuffers_read_vt` computes it: table pointer minus the *signed* soffset -/
def readVtBase (c : Ctx) (table : Nat) : Nat :=
  let so := r32 c table
  let vt : Int := (table : Int) - (if so < 2147483648 then (so : Int) else (so : Int) - 4294967296)
  vt.toNat

/-- `__flatbuffers_read_vt(ID, offset, t)`: value and the reads made -/
def readVt (c : Ctx) (table id : Nat) : Nat × List Access :=
  let vtn := readVtBase c table
  let vsize := r16 c vtn
  if vsize ≥ 2 * (id + 3) then
    (r16 c (vtn + 2 * (id + 2)), [⟨table, 4, 4⟩, ⟨vtn, 2, 2⟩, ⟨vtn + 2 * (id + 2), 2, 2⟩])
  else (0, [⟨table, 4, 4⟩, ⟨vtn, 2, 2⟩])

/-- a string whose header (length field) is at `s`: length read, then all bytes incl. the terminator -/
def stringAcc (c : Ctx) (s : Nat) : List Access := [⟨s, 4, 4⟩, ⟨s + 4, r32 c s + 1, 1⟩]

/-- a vector whose header is at `s`: length read and the element area -/
def vectorAcc (c : Ctx) (s esz align : Nat) : List Access :=
  [⟨s, 4, 4⟩, ⟨s + 4, r32 c s * esz, if r32 c s = 0 then 1 else align⟩]

/-- where `uv.value[i]` lands when the value vector is absent (a null pointer): outside every buffer -/
def nullBase : Nat := 18446744073709551616

/-- an access made through a pointer into a nested buffer that starts at byte `s` of the enclosing buffer -/
def shiftAcc (s : Nat) (a : Access) : Access := ⟨s + a.addr, a.len, a.align⟩

mutual
def tableAcc (S : Schema) (c : Ctx) : Nat → Nat → Nat → List Access
  | 0, _, _ => []
  | fuel+1, table, t => fieldsAcc S c fuel table (S.table t)

def memberAcc (S : Schema) (c : Ctx) (fuel : Nat) (p : Nat) : Option Member → List Access
  | none => []
  | some (.table t) => tableAcc S c fuel p t
  | some (.struct size align) => [⟨p, size, align⟩]
  | some .string => stringAcc c p

/-- `cnt` consecutive elements of an offset vector, the current one at address `e`: strings -/
def stringElemsAcc (c : Ctx) : Nat → Nat → List Access
  | 0, _ => []
  | cnt+1, e => (⟨e, 4, 4⟩ :: stringAcc c (e + r32 c e)) ++ stringElemsAcc c cnt (e + 4)

def tableElemsAcc (S : Schema) (c : Ctx) (fuel t : Nat) : Nat → Nat → List Access
  | 0, _ => []
  | cnt+1, e => (⟨e, 4, 4⟩ :: tableAcc S c fuel (e + r32 c e) t) ++ tableElemsAcc S c fuel t cnt (e + 4)

/-- union vector elements: type byte at `tp`, value slot at `e`; type 0 (NONE) has no value access -/
def unionElemsAcc (S : Schema) (c : Ctx) (fuel u : Nat) : Nat → Nat → Nat → List Access
  | 0, _, _ => []
  | cnt+1, tp, e =>
    (if r8 c tp = 0 then []
     else ⟨e, 4, 4⟩ :: memberAcc S c fuel (e + r32 c e) (lookupMember (S.union u) (r8 c tp)))
    ++ unionElemsAcc S c fuel u cnt (tp + 1) (e + 4)

def fieldAcc (S : Schema) (c : Ctx) (fuel table : Nat) (f : Field) : List Access :=
  match f.kind with
  | .scalar size align =>
    if (readVt c table f.id).1 = 0 then (readVt c table f.id).2
    else (readVt c table f.id).2 ++ [⟨table + (readVt c table f.id).1, size, align⟩]
  | .string =>
    if (readVt c table f.id).1 = 0 then (readVt c table f.id).2
    else (readVt c table f.id).2 ++ ⟨table + (readVt c table f.id).1, 4, 4⟩ ::
      stringAcc c (table + (readVt c table f.id).1 + r32 c (table + (readVt c table f.id).1))
  | .vector esz align _ =>
    if (readVt c table f.id).1 = 0 then (readVt c table f.id).2
    else (readVt c table f.id).2 ++ ⟨table + (readVt c table f.id).1, 4, 4⟩ ::
      vectorAcc c (table + (readVt c table f.id).1 + r32 c (table + (readVt c table f.id).1)) esz align
  | .stringVector =>
    if (readVt c table f.id).1 = 0 then (readVt c table f.id).2
    else
      (readVt c table f.id).2 ++ ⟨table + (readVt c table f.id).1, 4, 4⟩ ::
      ⟨table + (readVt c table f.id).1 + r32 c (table + (readVt c table f.id).1), 4, 4⟩ ::
      stringElemsAcc c (r32 c (table + (readVt c table f.id).1 + r32 c (table + (readVt c table f.id).1)))
        (table + (readVt c table f.id).1 + r32 c (table + (readVt c table f.id).1) + 4)
  | .table t =>
    if (readVt c table f.id).1 = 0 then (readVt c table f.id).2
    else (readVt c table f.id).2 ++ ⟨table + (readVt c table f.id).1, 4, 4⟩ ::
      tableAcc S c fuel (table + (readVt c table f.id).1 + r32 c (table + (readVt c table f.id).1)) t
  | .tableVector t =>
    if (readVt c table f.id).1 = 0 then (readVt c table f.id).2
    else
      (readVt c table f.id).2 ++ ⟨table + (readVt c table f.id).1, 4, 4⟩ ::
      ⟨table + (readVt c table f.id).1 + r32 c (table + (readVt c table f.id).1), 4, 4⟩ ::
      tableElemsAcc S c fuel t (r32 c (table + (readVt c table f.id).1 + r32 c (table + (readVt c table f.id).1)))
        (table + (readVt c table f.id).1 + r32 c (table + (readVt c table f.id).1) + 4)
  | .union u =>
    -- `N_f_type(t)`, and if the type is not NONE `N_f(t)` and the member
    if (readVt c table (f.id - 1)).1 = 0 then (readVt c table (f.id - 1)).2
    else
      (readVt c table (f.id - 1)).2 ++ ⟨table + (readVt c table (f.id - 1)).1, 1, 1⟩ ::
      (if r8 c (table + (readVt c table (f.id - 1)).1) = 0 then []
       else if (readVt c table f.id).1 = 0 then (readVt c table f.id).2
       else (readVt c table f.id).2 ++ ⟨table + (readVt c table f.id).1, 4, 4⟩ ::
         memberAcc S c fuel (table + (readVt c table f.id).1 + r32 c (table + (readVt c table f.id).1))
           (lookupMember (S.union u) (r8 c (table + (readVt c table (f.id - 1)).1))))
  | .unionVector u =>
    -- `N_f_union(t)`: both vector fields are fetched; elements through `U_union_vec_at`
    (if (readVt c table (f.id - 1)).1 = 0 then (readVt c table (f.id - 1)).2
     else (readVt c table (f.id - 1)).2 ++ ⟨table + (readVt c table (f.id - 1)).1, 4, 4⟩ ::
       vectorAcc c (table + (readVt c table (f.id - 1)).1 + r32 c (table + (readVt c table (f.id - 1)).1)) 1 1) ++
    (if (readVt c table f.id).1 = 0 then (readVt c table f.id).2
     else (readVt c table f.id).2 ++ ⟨table + (readVt c table f.id).1, 4, 4⟩ ::
       [⟨table + (readVt c table f.id).1 + r32 c (table + (readVt c table f.id).1), 4, 4⟩]) ++
    (if (readVt c table (f.id - 1)).1 = 0 then []
     else unionElemsAcc S c fuel u
       (r32 c (table + (readVt c table (f.id - 1)).1 + r32 c (table + (readVt c table (f.id - 1)).1)))
       (table + (readVt c table (f.id - 1)).1 + r32 c (table + (readVt c table (f.id - 1)).1) + 4)
       (if (readVt c table f.id).1 = 0 then nullBase
        else table + (readVt c table f.id).1 + r32 c (table + (readVt c table f.id).1) + 4))
  | .nestedTable t _ =>
    -- `N_f(t)` (the ubyte vector) and `N_f_as_root(t)` = `T_as_root(<pointer to the first byte of the vector>)`: from there on every
    -- read is relative to that pointer, i.e. a read of the nested buffer's own bytes
    if (readVt c table f.id).1 = 0 then (readVt c table f.id).2
    else (readVt c table f.id).2 ++ ⟨table + (readVt c table f.id).1, 4, 4⟩ ::
      (vectorAcc c (table + (readVt c table f.id).1 + r32 c (table + (readVt c table f.id).1)) 1 1 ++
       (⟨0, 4, 4⟩ :: tableAcc S
          (sub c (table + (readVt c table f.id).1 + r32 c (table + (readVt c table f.id).1) + 4)
                 (r32 c (table + (readVt c table f.id).1 + r32 c (table + (readVt c table f.id).1))))
          fuel
          (r32 (sub c (table + (readVt c table f.id).1 + r32 c (table + (readVt c table f.id).1) + 4)
                      (r32 c (table + (readVt c table f.id).1 + r32 c (table + (readVt c table f.id).1)))) 0) t).map
         (shiftAcc (table + (readVt c table f.id).1 + r32 c (table + (readVt c table f.id).1) + 4)))
  | .nestedStruct size align =>
    -- `N_f_as_root(t)` = `S_as_root(<pointer to the first byte of the vector>)`: root offset, then the struct
    if (readVt c table f.id).1 = 0 then (readVt c table f.id).2
    else (readVt c table f.id).2 ++ ⟨table + (readVt c table f.id).1, 4, 4⟩ ::
      (vectorAcc c (table + (readVt c table f.id).1 + r32 c (table + (readVt c table f.id).1)) 1 1 ++
       [⟨table + (readVt c table f.id).1 + r32 c (table + (readVt c table f.id).1) + 4, 4, 4⟩,
        ⟨table + (readVt c table f.id).1 + r32 c (table + (readVt c table f.id).1) + 4 +
           r32 c (table + (readVt c table f.id).1 + r32 c (table + (readVt c table f.id).1) + 4), size, align⟩])

def fieldsAcc (S : Schema) (c : Ctx) : Nat → Nat → List Field → List Access
  | _, _, [] => []
  | fuel, table, f :: fs => fieldAcc S c fuel table f ++ fieldsAcc S c fuel table fs
end

/-- `T_as_root(buf)`: read the root offset, then everything reachable -/
def rootAcc (S : Schema) (c : Ctx) (fuel t : Nat) : List Access :=
  ⟨0, 4, 4⟩ :: tableAcc S c fuel (r32 c 0) t

end Flatcc.Verifier
