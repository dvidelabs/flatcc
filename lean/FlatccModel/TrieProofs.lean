import FlatccModel.Trie
/-! What passing `snd` and `cmp` means: reasoning goes through `bytes`, the padded input bytes from an offset as a
list, so that prefixes and windows are list equalities. -/
namespace Flatcc.Trie

def bytes (s : List Nat) (off n : Nat) : List Nat := (List.range n).map (fun j => byteAt s (off + j))

theorem window_eq_bytes (s : List Nat) (off : Nat) : window s off = bytes s off 8 := rfl

theorem bytes_length (s : List Nat) (off n : Nat) : (bytes s off n).length = n := by
  simp only [bytes, List.length_map, List.length_range]

theorem bytes_one (s : List Nat) (off : Nat) : bytes s off 1 = [byteAt s off] := rfl

theorem bytes_add (s : List Nat) (off m n : Nat) :
    bytes s off (m + n) = bytes s off m ++ bytes s (off + m) n := by
  simp only [bytes, List.range_add, List.map_append, List.map_map]
  congr 2
  funext j
  simp only [Function.comp, Nat.add_assoc]

theorem bytes_take (s : List Nat) (off n m : Nat) : (bytes s off n).take m = bytes s off (min m n) := by
  simp only [bytes, ← List.map_take, List.take_range]

theorem bytes_drop (s : List Nat) (off n m : Nat) : (bytes s off n).drop m = bytes s (off + m) (n - m) := by
  cases Nat.le_total m n with
  | inl h =>
    obtain ⟨k, rfl⟩ := Nat.exists_eq_add_of_le h
    rw [bytes_add, List.drop_left' (bytes_length s off m), Nat.add_sub_cancel_left]
  | inr h =>
    rw [List.drop_of_length_le (by rw [bytes_length]; exact h), Nat.sub_eq_zero_of_le h]
    rfl

theorem getElem_bytes (s : List Nat) (off n j : Nat) (hj : j < (bytes s off n).length) :
    (bytes s off n)[j] = byteAt s (off + j) := by
  simp only [bytes, List.getElem_map, List.getElem_range]

theorem agree_iff (s : List Nat) (off : Nat) (l : List Nat) :
    (∀ j, j < l.length → byteAt s (off + j) = l.getD j 0) ↔ bytes s off l.length = l := by
  constructor
  · intro h
    apply List.ext_getElem (bytes_length s off l.length)
    intro j _ hj
    rw [getElem_bytes, h j hj, List.getElem_eq_getD 0]
  · intro h j hj
    have hb : j < (bytes s off l.length).length := by rw [bytes_length]; exact hj
    rw [← getElem_bytes s off l.length j hb, List.getElem_eq_getD 0, h]

theorem agree_iff0 (s l : List Nat) :
    (∀ j, j < l.length → byteAt s j = l.getD j 0) ↔ bytes s 0 l.length = l := by
  simpa only [Nat.zero_add] using agree_iff s 0 l

theorem eval_matchAt (idx n : Nat) (fail : Tree) (s : List Nat) (off : Nat) :
    eval (.matchAt idx n fail) s off =
      if off + n < s.length ∧ byteAt s (off + n) = term then some idx else eval fail s off := by
  simp only [eval]
  by_cases hlen : s.length - off ≤ n
  · rw [if_pos hlen, if_neg (fun h => Nat.not_le_of_gt (Nat.lt_sub_iff_add_lt'.mpr h.1) hlen)]
  · rw [if_neg hlen]
    by_cases hterm : byteAt s (off + n) = term
    · rw [if_pos hterm, if_pos ⟨Nat.add_lt_of_lt_sub' (Nat.lt_of_not_le hlen), hterm⟩]
    · rw [if_neg hterm, if_neg (fun h => hterm h.2)]

theorem snd_sound_bytes (d : List Key) {s : List Nat} {i : Nat} :
    ∀ (t : Tree) {off : Nat} {pre win : List Nat},
      snd d t pre win = true → bytes s 0 off = pre → bytes s off win.length = win → eval t s off = some i →
      i < d.length ∧ Matches s (d.getD i []) := by
  intro t
  induction t with
  | lt tag l r ihl ihr =>
    intro off pre win hs hpre hwin he
    simp only [snd, Bool.and_eq_true] at hs
    unfold eval at he
    split at he
    · exact ihl hs.1 hpre hwin he
    · exact ihr hs.2 hpre hwin he
  | eqm n bs t e iht ihe =>
    intro off pre win hs hpre hwin he
    simp only [snd, Bool.and_eq_true, beq_iff_eq, decide_eq_true_eq] at hs
    obtain ⟨⟨⟨hbn, hn8⟩, hst⟩, hse⟩ := hs
    unfold eval at he
    split at he
    · next heq =>
      rw [window_eq_bytes, bytes_take, Nat.min_eq_left hn8, ← hbn] at heq
      exact iht hst hpre heq he
    · exact ihe hse hpre hwin he
  | matchAt idx n fail ih =>
    intro off pre win hs hpre hwin he
    simp only [snd, Bool.and_eq_true, beq_iff_eq, decide_eq_true_eq] at hs
    obtain ⟨⟨⟨hn, hkey⟩, hidx⟩, hsf⟩ := hs
    rw [eval_matchAt] at he
    split at he
    · next hm =>
      obtain rfl : idx = i := Option.some.inj he
      have hk : bytes s 0 (off + n) = d.getD idx [] := by
        rw [hkey, bytes_add, Nat.zero_add, hpre, ← hwin, bytes_take, Nat.min_eq_left hn]
      have hklen : (d.getD idx []).length = off + n := by rw [← hk, bytes_length]
      rw [Matches, agree_iff0, hklen]
      exact ⟨hidx, hm.1, hk, hm.2⟩
    · exact ih hsf hpre hwin he
  | descend t ih =>
    intro off pre win hs hpre hwin he
    simp only [snd, Bool.and_eq_true, beq_iff_eq] at hs
    unfold eval at he
    rw [hs.1] at hwin
    have hpre' : bytes s 0 (off + 8) = pre ++ win := by rw [bytes_add, Nat.zero_add, hpre, hwin]
    exact ih hs.2 hpre' rfl he
  | unmatched =>
    intro off pre win _ _ _ he
    cases he

theorem snd_sound (d : List Key) :
    ∀ (t : Tree) (s : List Nat) (off : Nat) (pre win : List Nat) (i : Nat),
      snd d t pre win = true → Know s off pre win → eval t s off = some i →
      i < d.length ∧ Matches s (d.getD i []) := by
  intro t s off pre win i hs hk he
  obtain ⟨hpl, hpre, hwin⟩ := hk
  rw [agree_iff0, hpl] at hpre
  rw [agree_iff] at hwin
  exact snd_sound_bytes d t hs hpre hwin he

theorem decLt_sound : ∀ (kb tag rest : List Nat) (r : Bool), decLt kb tag = some r →
    (kb ++ rest).length = tag.length → lexLt (kb ++ rest) tag = r
  | [], [] => fun rest r h hl => by
    obtain rfl : rest = [] := List.eq_nil_of_length_eq_zero hl
    exact Option.some.inj h
  | [], _ :: _ => fun _ _ h => nomatch h
  | _ :: _, [] => fun _ _ _ hl => nomatch hl
  | a :: as, b :: bs => fun rest r h hl => by
    rw [decLt] at h
    rw [List.cons_append, lexLt]
    by_cases hlt : a < b
    · rw [if_pos hlt] at h ⊢; exact Option.some.inj h
    · rw [if_neg hlt] at h ⊢
      by_cases hgt : a > b
      · rw [if_pos hgt] at h ⊢; exact Option.some.inj h
      · rw [if_neg hgt] at h ⊢
        exact decLt_sound as bs rest r h (Nat.succ.inj hl)

theorem matches_bytes {s : List Nat} {key : Key} (hm : Matches s key) :
    bytes s 0 (key.length + 1) = key ++ [term] := by
  obtain ⟨_, hk, ht⟩ := hm
  rw [agree_iff0] at hk
  rw [bytes_add, bytes_one, Nat.zero_add, hk, ht]

theorem kwin_eq_bytes {s : List Nat} {key : Key} (hm : Matches s key) (off : Nat) :
    kwin key off = bytes s off (min 8 (key.length + 1 - off)) := by
  rw [kwin, ← matches_bytes hm, bytes_drop, bytes_take, Nat.zero_add]

/-- the window the generated code loads is the window known from the name, followed by bytes the name says nothing about -/
theorem window_eq_kwin {s : List Nat} {key : Key} (hm : Matches s key) (off : Nat) :
    ∃ rest, window s off = kwin key off ++ rest := by
  refine ⟨bytes s (off + (kwin key off).length) (8 - (kwin key off).length), ?_⟩
  rw [kwin_eq_bytes hm off, bytes_length, ← bytes_add, window_eq_bytes, Nat.add_sub_cancel' (Nat.min_le_left 8 _)]

theorem cmp_complete (key : Key) (i : Nat) (hkey : ∀ j, j < key.length → key.getD j 0 ≠ term) :
    ∀ (t : Tree) (off : Nat) (s : List Nat), Matches s key → cmp key i t off = true → eval t s off = some i := by
  intro t off s hm
  induction t generalizing off with
  | lt tag l r ihl ihr =>
    intro hc
    obtain ⟨rest, hw⟩ := window_eq_kwin hm off
    unfold cmp at hc
    unfold eval
    split at hc
    · next htl =>
      have hlen : (kwin key off ++ rest).length = tag.length := by rw [← hw, window_eq_bytes, bytes_length, htl]
      rw [hw]
      split at hc
      · next hd => rw [decLt_sound _ _ rest _ hd hlen, if_pos rfl]; exact ihl off hc
      · next hd => rw [decLt_sound _ _ rest _ hd hlen, if_neg Bool.false_ne_true]; exact ihr off hc
      · cases hc
    · cases hc
  | eqm n bs t e iht ihe =>
    intro hc
    obtain ⟨rest, hw⟩ := window_eq_kwin hm off
    unfold cmp at hc
    unfold eval
    rw [hw]
    by_cases hn : n ≤ (kwin key off).length
    · rw [if_pos hn] at hc
      rw [List.take_append_of_le_length hn]
      by_cases heq : (kwin key off).take n = bs
      · rw [if_pos heq] at hc ⊢; exact iht off hc
      · rw [if_neg heq] at hc ⊢; exact ihe off hc
    · -- the known bytes alone must refute the test
      rw [if_neg hn] at hc
      by_cases hne : kwin key off ≠ bs.take (kwin key off).length
      · rw [if_pos hne] at hc
        have hw : (kwin key off ++ rest).take n ≠ bs := fun h => hne (by
          rw [← h, List.take_take, Nat.min_eq_left (Nat.le_of_not_le hn), List.take_left' rfl])
        rw [if_neg hw]; exact ihe off hc
      · rw [if_neg hne] at hc; cases hc
  | matchAt idx n fail ih =>
    intro hc
    unfold cmp at hc
    rw [eval_matchAt]
    split at hc
    · next hlt =>
      have hb : byteAt s (off + n) ≠ term := by rw [hm.2.1 _ hlt]; exact hkey _ hlt
      rw [if_neg (fun h => hb h.2)]
      exact ih off hc
    · split at hc
      · next heq => rw [if_pos ⟨heq ▸ hm.1, heq ▸ hm.2.2⟩, eq_of_beq hc]
      · cases hc
  | descend t ih =>
    intro hc
    exact ih (off + 8) hc
  | unmatched =>
    intro hc
    cases hc

end Flatcc.Trie
