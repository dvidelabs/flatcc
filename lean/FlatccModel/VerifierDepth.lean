import FlatccModel.VerifierSeq
/-! The nesting limit by induction on the fuel: `verify_table` tests the budget `ttl` before anything else and hands `ttl - 1`
down, so with `ttl ≤ fuel` the recursion is cut by that test before the fuel is spent. -/
namespace Flatcc.Verifier

/-- tables verified with recursion bound `fuel` and a budget within it do not run out of fuel -/
def TableNF (S : Schema) (fuel : Nat) : Prop :=
  ∀ (c : Ctx) base offset (ttl : Int) t, 1 ≤ fuel → ttl ≤ (fuel : Int) → NF (verifyTable S c fuel base offset ttl t)

theorem member_nf {S : Schema} {fuel : Nat} (IH : TableNF S fuel) (c : Ctx) (b o : Nat) (ttl : Int) (h1 : 1 ≤ fuel) (ht : ttl ≤ (fuel : Int))
    (m : Option Member) : NF (verifyMember S c fuel b o ttl m) := by
  unfold verifyMember
  cases m with
  | none => exact nf_ok
  | some m =>
    cases m with
    | table t => exact IH c b o ttl t h1 ht
    | struct s a => exact nf_verifyStruct
    | string => exact nf_verifyString

theorem kind_nf {S : Schema} {fuel : Nat} (IHall : TableNF S fuel) (c : Ctx) (td : TD) (f : Field) (h1 : 1 ≤ fuel) (ht : td.ttl ≤ (fuel : Int)) :
    NF (verifyKind S c fuel td f) :=
  kind_rel (A := S) seqRel_nf td f (fun c' b o ttl t h => IHall c' b o ttl t h1 (Int.le_trans h ht))
    (fun _ _ b o ttl h => member_nf IHall c b o ttl h1 (Int.le_trans h ht) _)

theorem fields_nf {S : Schema} {fuel : Nat} (IHall : TableNF S fuel) (c : Ctx) (td : TD) (h1 : 1 ≤ fuel) (ht : td.ttl ≤ (fuel : Int)) :
    ∀ fs, NF (verifyFields S c fuel td fs) := by
  intro fs
  induction fs with
  | nil => unfold verifyFields; exact nf_ok
  | cons f fs ih => unfold verifyFields; exact nf_bind (kind_nf IHall c td f h1 ht) fun _ _ => ih

theorem table_nf (S : Schema) : ∀ fuel, TableNF S fuel := by
  intro fuel
  induction fuel with
  | zero => intro c base offset ttl t h1; cases h1
  | succ fuel ih =>
    intro c base offset ttl t _ ht
    rw [verifyTable_succ]
    -- past the budget test `0 < ttl - 1`, and the fields are verified with `ttl - 1 ≤ fuel`
    refine nf_bind nf_guard fun _ hg => nf_bind nf_tableHeader fun d _ => ?_
    have hgt : ttl - 1 > 0 := of_decide_eq_true (guard_ok hg)
    have h2 : ttl - 1 ≤ (fuel : Int) := Int.sub_right_le_of_le_add ht
    -- `by exact h2`: stated before `td` is known, `h2` makes the unifier unfold `≤` on `Int`
    exact fields_nf ih c _ (Int.natCast_pos.mp (Int.lt_of_lt_of_le hgt h2)) (by exact h2) _

end Flatcc.Verifier
