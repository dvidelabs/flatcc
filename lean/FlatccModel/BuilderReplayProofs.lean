import FlatccModel.BuilderReplay
import FlatccModel.BuilderHeader
/-! # Every builder operation keeps its emit record replayable to exactly `[emit_start, emit_end)` -/
namespace Flatcc.Builder

theorem stepOK_some (prev se : Int × Int) (e : Int × Nat) (h : stepOK prev e = some se) :
    (e.1 = prev.1 - (e.2 : Int) ∧ e.1 < prev.1 ∧ se = (e.1, prev.2)) ∨
    (e.1 = prev.2 ∧ 0 < e.2 ∧ se = (prev.1, prev.2 + (e.2 : Int))) := by
  unfold stepOK at h
  split at h
  · next c =>
    injection h with h
    exact Or.inl ⟨c.1, c.2, h.symm⟩
  · split at h
    · next c =>
      injection h with h
      exact Or.inr ⟨c.1, c.2, h.symm⟩
    · cases h

theorem emitFront_tiled (s : BS) (bytes : List Nat) (h : Tiled s) (hne : bytes ≠ []) : Tiled (emitFront s bytes).1 := by
  unfold Tiled at h ⊢
  unfold emitFront
  simp only [replay, h, Option.bind_some]
  have hl : 0 < bytes.length := List.length_pos_iff.mpr hne
  unfold stepOK BS.emitStart BS.emitEnd
  have hlt : s.front.length < bytes.length + s.front.length := Nat.lt_add_of_pos_left hl
  -- the front test of `stepOK`
  have c : -((bytes.length + s.front.length : Nat) : Int) = -(s.front.length : Int) - (bytes.length : Int) ∧
      -((bytes.length + s.front.length : Nat) : Int) < -(s.front.length : Int) :=
    ⟨by rw [Int.natCast_add, Int.neg_add, Int.add_comm, Int.sub_eq_add_neg], Int.neg_lt_neg (Int.ofNat_lt.mpr hlt)⟩
  rw [List.length_append, if_pos c]

theorem emitBack_tiled (s : BS) (bytes : List Nat) (h : Tiled s) (hne : bytes ≠ []) : Tiled (emitBack s bytes).1 := by
  unfold Tiled at h ⊢
  unfold emitBack
  simp only [replay, h, Option.bind_some]
  have hl : 0 < bytes.length := List.length_pos_iff.mpr hne
  unfold stepOK BS.emitStart BS.emitEnd
  simp only [List.length_append]
  -- the front test of `stepOK` fails: the end is not below the start
  have c : ¬ ((s.back.length : Int) = -(s.front.length : Int) - (bytes.length : Int) ∧
      (s.back.length : Int) < -(s.front.length : Int)) :=
    fun hc => Int.not_lt.mpr (Int.neg_natCast_le_natCast _ _) hc.2
  rw [if_neg c, if_pos ⟨trivial, hl⟩]
  congr 1  -- left: the cast of `back.length + bytes.length`, closed by `rfl`

theorem tiled_congr {s s' : BS} (h : Tiled s) (e1 : s'.emits = s.emits) (e2 : s'.front = s.front) (e3 : s'.back = s.back) : Tiled s' := by
  unfold Tiled BS.emitStart BS.emitEnd at h ⊢
  rw [e1, e2, e3]
  exact h

theorem setMinAlign_tiled (s : BS) (a : Nat) (h : Tiled s) : Tiled (setMinAlign s a) := by
  rw [setMinAlign_eq]
  exact tiled_congr h rfl rfl rfl

theorem tiled_of_emitFront_eq {s : BS} {r : BS × Int} {a : Nat} {img : List Nat} (e : r = emitFront (setMinAlign s a) img)
    (hne : img ≠ []) (h : Tiled s) : Tiled r.1 := by
  rw [e]
  exact emitFront_tiled (setMinAlign s a) img (setMinAlign_tiled s a h) hne

theorem vtableBytes_ne (t : TableLayout) : vtableBytes t ≠ [] := by
  unfold vtableBytes le16; simp

theorem createVtable_tiled (s : BS) (vt : List Nat) (h : Tiled s) (hv : vt ≠ []) : Tiled (createVtable s vt).1 := by
  unfold createVtable
  split
  · exact emitBack_tiled _ _ h hv
  · exact emitFront_tiled _ _ h (by intro e; exact hv (List.append_eq_nil_iff.mp e).1)

theorem createCachedVtable_tiled (s : BS) (vt : List Nat) (hash : Nat) (h : Tiled s) (hv : vt ≠ []) :
    Tiled (createCachedVtable s vt hash).1 := by
  rcases createCachedVtable_cases s vt hash with ⟨_, _, _, heq⟩ | ⟨_, heq⟩
  · rw [heq]
    exact h
  · rw [heq]
    exact tiled_congr (createVtable_tiled s vt h hv) rfl rfl rfl

theorem endTable_tiled (s : BS) (fields : List (Nat × FieldVal)) (h : Tiled s) : Tiled (endTable s fields).1 := by
  -- `rfl` below is `createTable_eq` (BuilderTable, which this module does not import)
  unfold endTable createTable
  exact tiled_of_emitFront_eq rfl (le32_append_ne _ _ _) (createCachedVtable_tiled s _ _ h (vtableBytes_ne _))

theorem bufPrep_tiled (s : BS) (a : Nat) (n : Bool) (h : Tiled s) : Tiled (bufPrep s a n) := by
  unfold bufPrep
  apply setMinAlign_tiled
  split
  · exact h
  · show Tiled (if backPad s a = 0 then s else (emitBack s (zeros (backPad s a))).1)
    split
    · exact h
    · next hz => exact emitBack_tiled _ _ h (by unfold zeros; intro e; exact hz (by simpa using e))

theorem bufHeader_ne (s : BS) (ident : List Nat) (r : Int) (a : Nat) (n : Bool) : bufHeader s ident r a n ≠ [] := by
  intro e
  have := bufHeader_length s ident r a n
  rw [e, List.length_nil] at this
  omega

theorem createBuffer_tiled (s : BS) (ident : List Nat) (r : Int) (a : Nat) (n : Bool) (h : Tiled s) :
    Tiled (createBuffer s ident r a n).1 := by
  unfold createBuffer
  exact emitFront_tiled _ _ (bufPrep_tiled _ _ _ h) (bufHeader_ne _ _ _ _ _)

theorem endBuffer_tiled (saved s : BS) (ident : List Nat) (r : Int) (h : Tiled s) : Tiled (endBuffer saved s ident r).1 := by
  -- given as `rfl` arguments of `tiled_congr`, the projections are unified under `let (s3, r) := createBuffer …`: very slow
  obtain ⟨h1, h2, h3, _⟩ := endBuffer_fst saved s ident r
  exact tiled_congr (createBuffer_tiled _ _ _ _ _ (setMinAlign_tiled _ _ h)) h1 h2 h3

theorem stepOp_tiled (st : BS × List BS) (op : BOp) (h : Tiled st.1) : Tiled (stepOp st op).1 := by
  cases op with
  | str d => exact emitFront_tiled _ _ h (le32_append_ne _ _ _)
  | vec d c a => exact tiled_of_emitFront_eq (createVector_eq st.1 d c a) (le32_append_ne _ _ _) h
  | ovec r => exact tiled_of_emitFront_eq (createOffsetVector_image st.1 r) (le32_append_ne _ _ _) h
  | struct d a =>
    show Tiled (if d = [] then st.1 else (createStruct st.1 d a).1)
    split
    · exact h
    · next hd => exact tiled_of_emitFront_eq (createStruct_eq st.1 d a) (fun e => hd (List.append_eq_nil_iff.mp e).1) h
  | table f => exact endTable_tiled st.1 f h
  | embed d a b w => exact tiled_of_emitFront_eq (embedBuffer_eq st.1 d a b w) (le32_append_ne _ _ _) h
  | startBuf b w => exact tiled_congr h rfl rfl rfl
  | endBuf id r =>
    show Tiled (match st.2 with | [] => st | saved :: rest => ((endBuffer saved st.1 id r).1, rest)).1
    split
    · exact h
    · next saved rest _ => exact endBuffer_tiled saved st.1 id r h
  | clustering on => exact tiled_congr h rfl rfl rfl

theorem foldl_stepOp_tiled (ops : List BOp) (st : BS × List BS) (h : Tiled st.1) : Tiled (ops.foldl stepOp st).1 := by
  induction ops generalizing st with
  | nil => exact h
  | cons op ops ih => exact ih (stepOp st op) (stepOp_tiled st op h)

end Flatcc.Builder
