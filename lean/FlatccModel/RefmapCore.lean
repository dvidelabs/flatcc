/-! flatcc refmap (open addressing, linear probe, no delete): the probe loop, `find` and the store of `insert` on a
table of fixed size, with the representation invariant `Inv` they need. -/
namespace Flatcc.Refmap

abbrev Slot := Nat × Int

structure RM where
  buckets : Nat
  table : Array Slot          -- src = 0 ⇒ empty
  deriving Repr

def srcAt (s : RM) (j : Nat) : Nat := (s.table[j]!).1
def refAt (s : RM) (j : Nat) : Int := (s.table[j]!).2

/-- the probe loop of `flatcc_refmap_insert` / `_find` from the home slot `k = hash src`: the first slot on the probe
path that is empty or holds `src`. `(k + i) % buckets` stands for C's `(k + i) & (buckets - 1)` (`_flatcc_refmap_probe`;
bucket counts are powers of two there, the proofs hold for any size). The `fuel = 0` arm is reached only when no slot is
empty (`walk_end`); the C loop would not end then. -/
def walk (s : RM) (k src : Nat) : Nat → Nat → Nat
  | i, 0 => (k + i) % s.buckets
  | i, fuel+1 =>
    if srcAt s ((k + i) % s.buckets) = 0 then (k + i) % s.buckets
    else if srcAt s ((k + i) % s.buckets) = src then (k + i) % s.buckets
    else walk s k src (i + 1) fuel

/-- `flatcc_refmap_find` after its `count == 0` test: the reference in the slot the probe ends at, 0 (not found) if that
slot is empty -/
def find (hash : Nat → Nat) (s : RM) (src : Nat) : Int :=
  let j := walk s (hash src) src 0 s.buckets
  if srcAt s j = 0 then 0 else refAt s j

/-- the store of `flatcc_refmap_insert`: `(src, ref)` goes into the slot the probe ends at (an empty one, or the one that
holds `src` already) -/
def insertCore (hash : Nat → Nat) (s : RM) (src : Nat) (ref : Int) : RM :=
  let j := walk s (hash src) src 0 s.buckets
  { s with table := s.table.setIfInBounds j (src, ref) }

/-- abstract content: the ref stored under src, if any -/
def lookup (s : RM) (src : Nat) : Option Int :=
  ((List.range s.buckets).find? (fun j => srcAt s j = src)).map (refAt s)

/-- representation invariant of a table under `hash`; what `find` and the store of `insert` need, and what they keep -/
structure Inv (hash : Nat → Nat) (s : RM) : Prop where
  size : s.table.size = s.buckets
  pos : 0 < s.buckets
  /-- one slot is empty, so every probe loop ends; the load factor keeps it so -/
  empty : ∃ e, e < s.buckets ∧ srcAt s e = 0
  /-- no key sits in two slots -/
  nodup : ∀ j1 j2, j1 < s.buckets → j2 < s.buckets → srcAt s j1 ≠ 0 → srcAt s j1 = srcAt s j2 → j1 = j2
  /-- the probe path of a stored key has no hole: if the probe sequence of the key in slot `t` reaches `t` at offset `i`,
  every slot it passes before is occupied, so the loop looking for that key does not stop short at an empty slot -/
  path : ∀ t i, t < s.buckets → srcAt s t ≠ 0 → i < s.buckets →
      (hash (srcAt s t) + i) % s.buckets = t →
      ∀ i', i' < i → srcAt s ((hash (srcAt s t) + i') % s.buckets) ≠ 0

end Flatcc.Refmap
