import FlatccModel.Evolution
import FlatccModel.Props.C01
/-!
# C09 — schema evolution keeps old and new code interoperable (verifier / reader level)

`A` is the old schema, `B` the new one (`Extends A B`: fields, union members, tables only added).
-/
namespace Flatcc.Verifier

/-- every buffer the new schema's verifier accepts is accepted by the old schema's verifier —
for ALL byte strings, not only those a builder produced (A's checks are a subset of B's; union
codes unknown to A are accepted without following the value) -/
theorem C09_new_to_old {A B : Schema} (E : Extends A B) (c : Ctx) (idHash t : Nat)
    (h : verifyTableAsRoot B c idHash t = .ok ()) : verifyTableAsRoot A c idHash t = .ok () := by
  unfold verifyTableAsRoot at h ⊢
  refine bind_mono (fun _ h => ?_) h
  exact bind_mono (fun o h => table_mono E _ c _ _ _ _ h) h

/-- the same for size-prefixed buffers -/
theorem C09_new_to_old_with_size {A B : Schema} (E : Extends A B) (c : Ctx) (idHash t : Nat)
    (h : verifyTableAsRootWithSize B c idHash t = .ok ()) : verifyTableAsRootWithSize A c idHash t = .ok () := by
  unfold verifyTableAsRootWithSize at h ⊢
  refine bind_mono (fun n' h => ?_) h
  exact bind_mono (fun o h => table_mono E _ _ _ _ _ _ h) h

/-- a buffer the new schema's verifier accepts is safe to read with the old schema's reader (`C09_new_to_old`, then C01 for `A`) -/
theorem C09_old_reader_safe {A B : Schema} (E : Extends A B) {c : Ctx} {M : Nat} (hm4 : 4 ∣ M) (hmp : M ∣ 4294967296) (w : WF A M)
    (idHash t : Nat) (h : verifyTableAsRoot B c idHash t = .ok ()) :
    ∀ fuel a, a ∈ rootAcc A c fuel t → Safe c a :=
  C01_table_root hm4 hmp A w idHash t (C09_new_to_old E c idHash t h)

/-- a leaf field (scalar, string, vector, string vector) is read by the same function of the buffer whichever schema version
generated the accessor: `fieldAcc` does not consult the schema for these kinds -/
theorem C09_shared_reads_leaf (A B : Schema) (c : Ctx) (fuel table : Nat) (f : Field)
    (hleaf : (∃ s a, f.kind = .scalar s a) ∨ f.kind = .string ∨ (∃ e a m, f.kind = .vector e a m) ∨ f.kind = .stringVector) :
    fieldAcc A c fuel table f = fieldAcc B c fuel table f := by
  unfold fieldAcc
  rcases hleaf with ⟨s, a, h⟩ | h | ⟨e, a, m, h⟩ | h <;> simp only [h]

/-- a union member whose code the old schema does not know is accepted without being followed, and
the old reader reads nothing behind it (it is seen as NONE / skipped) -/
theorem C09_union_unknown (A : Schema) (c : Ctx) (fuel u ty b o : Nat) (ttl : Int)
    (h : lookupMember (A.union u) ty = none) :
    verifyMember A c fuel b o ttl (lookupMember (A.union u) ty) = .ok () ∧
    memberAcc A c fuel (b + o) (lookupMember (A.union u) ty) = [] := by
  rw [h]; constructor
  · unfold verifyMember; rfl
  · unfold memberAcc; rfl

/-- non-vacuity: appending a field and a union member is an extension -/
example : Extends { tables := [[⟨0, false, .scalar 4 4⟩, ⟨2, false, .union 0⟩]], unions := [[(1, .table 0)]] }
                  { tables := [[⟨0, false, .scalar 4 4⟩, ⟨2, false, .union 0⟩, ⟨3, false, .string⟩]], unions := [[(1, .table 0), (2, .string)]] } := by
  refine ⟨?_, ?_⟩
  · intro t f hf
    match t with
    | 0 => simp [Schema.table] at hf ⊢; rcases hf with rfl | rfl <;> simp
    | t+1 => simp [Schema.table] at hf
  · intro u ty m h
    match u with
    | 0 =>
      simp only [Schema.union, List.getD, List.getElem?_cons_zero, Option.getD_some, lookupMember] at h ⊢
      split at h
      · rename_i e; simp [e, h]
      · simp at h
    | u+1 => simp [Schema.union, lookupMember] at h

end Flatcc.Verifier
