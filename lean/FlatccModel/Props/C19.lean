import FlatccModel.NumProofs
/-!
# C19 — number → text → number is exact and range-checked (integer part)

Floats (grisu3 / strtod) are outside the model: see DESIGN.md, C19.
-/
namespace Flatcc.Num

/-- `print_uint8/16/32` write exactly the decimal digits of every value of the type, as many as the decision tree says -/
theorem C19_print_u8 (n : Nat) (h : n < 256) :
    decval (printU8 n) = n ∧ AllDigits (printU8 n) ∧ (printU8 n).length = klen8 n :=
  (klen8_fits n h).2.2

theorem C19_print_u16 (n : Nat) (h : n < 65536) :
    decval (printU16 n) = n ∧ AllDigits (printU16 n) ∧ (printU16 n).length = klen16 n :=
  (klen16_fits n h).2.2

theorem C19_print_u32 (n : Nat) (h : n < 4294967296) :
    decval (printU32 n) = n ∧ AllDigits (printU32 n) ∧ (printU32 n).length = klen32 n :=
  (klen32_fits n h).2.2

/-- `print_uint64` (both of its branches): the decimal digits, between 1 and 20 of them -/
theorem C19_print_u64 (n : Nat) (h : n < 18446744073709551616) :
    decval (printU64 n) = n ∧ AllDigits (printU64 n) ∧ 1 ≤ (printU64 n).length ∧ (printU64 n).length ≤ 20 :=
  have ⟨_, hlo, hhi, h1, h2, h3⟩ := printU64_digits h
  ⟨h1, h2, h3 ▸ hlo, h3 ▸ hhi⟩

/-- Every digit text, with or without a sign, followed by a terminator is read as its exact value, or rejected when that
value does not fit 64 bits: any length, any number of leading zeros. A lone `-` reads as 0, as in the C code. -/
theorem C19_scan_exact (neg : Bool) (ds : List Nat) (hd : AllDigits ds) (hne : neg = true ∨ ds ≠ []) (rest : List Nat)
    (ht : Term rest) :
    jsonInteger (sign neg ++ (ds ++ rest)) =
      if 18446744073709551616 ≤ decval ds then .range else .ok neg (decval ds) (ds.length + (sign neg).length) := by
  rw [jsonInteger_digits neg ds hd hne rest ht.nonDigit, ht.after]

/-- the pre-repair loop wrapped silently: 20500000000000000000 was read as 2053255926290448384 -/
theorem C19_old_loop_wraps :
    jsonIntegerWith digitLoopOld [50,48,53,48,48,48,48,48,48,48,48,48,48,48,48,48,48,48,48,48]
      = .ok false 2053255926290448384 20 := by decide

/-- … which the repaired loop rejects -/
example : jsonInteger [50,48,53,48,48,48,48,48,48,48,48,48,48,48,48,48,48,48,48,48] = .range := by decide

/-- integers are never accepted from fraction / exponent notation (the text is `sign neg ++ ds ++ c :: rest` of
`C19_scan_exact`, written out) -/
theorem C19_no_fraction (ds : List Nat) (hd : AllDigits ds) (c : Nat) (hc : c = 46 ∨ c = 101 ∨ c = 69)
    (rest : List Nat) (neg : Bool) :
    ∀ v k, jsonInteger ((if neg then [45] else []) ++ ds ++ c :: rest) ≠ .ok neg v k := by
  intro v k
  have hnd : NonDigitHead (c :: rest) := by
    intro c' cs' e
    cases e
    rcases hc with rfl | rfl | rfl <;> decide
  have hf : c = 101 ∨ c = 69 ∨ c = 46 := or_assoc.mp hc.symm
  by_cases hne : neg = true ∨ ds ≠ []
  · rw [List.append_assoc, ← sign, jsonInteger_digits neg ds hd hne (c :: rest) hnd]
    simp only [after, hf, if_true]
    split <;> simp
  · -- neither sign nor digit: the scanner does not match at all
    obtain ⟨rfl, rfl⟩ : neg = false ∧ ds = [] := by simpa using hne
    have hneg : (c == 45) = false := by rcases hc with rfl | rfl | rfl <;> rfl
    simp [jsonInteger, jsonIntegerWith, hneg, digitLoop, hnd c rest rfl]

/-- narrowing to an unsigned field is a range check, not a truncation: what `coerce_uint*` accepts is unchanged and in range -/
theorem C19_narrow_unsigned (lim : Nat) (neg : Bool) (v r : Nat) (hl : 0 < lim)
    (h : coerceU lim neg v = some r) : neg = false ∧ v < lim ∧ r = v := by
  cases neg with
  | true => cases h
  | false =>
    rw [coerceU, if_neg Bool.false_ne_true] at h
    split at h
    · cases h
    · rename_i hv
      cases h
      exact ⟨rfl, Nat.lt_of_le_sub_one hl (Nat.le_of_not_lt hv), rfl⟩

/-- `coerce_uint*` accepts every value in range -/
theorem C19_unsigned_complete (lim : Nat) (v : Nat) (hv : v < lim) : coerceU lim false v = some v := by
  unfold coerceU
  rw [if_neg Bool.false_ne_true, if_neg (Nat.not_lt.2 (Nat.le_sub_one_of_lt hv))]

/-- narrowing to a signed field accepts every value of the type, with its sign (`INT*_MIN` included) -/
theorem C19_signed_complete {m : Nat} (hm : 0 < m) (hd : 2 * m ∣ 18446744073709551616)
    (i : Int) (hlo : -(m : Int) ≤ i) (hhi : i < (m : Int)) :
    coerceS m (decide (i < 0)) i.natAbs = some i := by
  rw [coerceS_eq_some_iff hm hd]
  refine ⟨?_, hlo, hhi⟩
  by_cases h : i < 0
  · rw [decide_eq_true h, if_pos rfl, Int.ofNat_natAbs_of_nonpos (Int.le_of_lt h), Int.neg_neg]
  · rw [decide_eq_false h, if_neg Bool.false_ne_true, Int.natAbs_of_nonneg (Int.not_lt.mp h)]

/-- signed coercion yields exactly `±v`, inside the type's range, or fails: for int8/16/32/64 (`coerceS_eq_some_iff` is the
general form: an iff, for every `m` with `2 m ∣ 2^64`; `hv` is not needed) -/
theorem C19_narrow_signed (m : Nat) (hm : m = 128 ∨ m = 32768 ∨ m = 2147483648 ∨ m = 9223372036854775808)
    (neg : Bool) (v : Nat) (hv : v < 18446744073709551616) (r : Int) (h : coerceS m neg v = some r) :
    r = (if neg then -(v : Int) else (v : Int)) ∧ -(m : Int) ≤ r ∧ r < (m : Int) := by
  rcases hm with rfl | rfl | rfl | rfl <;> exact (coerceS_eq_some_iff (by decide) (by decide) neg v r).mp h

/-- print → scan → coerce is the identity on `uint64_t`, `uint32_t`, `uint16_t`, `uint8_t` -/
theorem C19_roundtrip_u64 (n : Nat) (h : n < 18446744073709551616) (rest : List Nat) (ht : Term rest) :
    jsonInteger (printU64 n ++ rest) = .ok false n (printU64 n).length ∧
    coerceU 18446744073709551616 false n = some n :=
  ⟨scan_prints (printU64_prints h) h rest ht, C19_unsigned_complete _ _ h⟩

theorem C19_roundtrip_u32 (n : Nat) (h : n < 4294967296) (rest : List Nat) (ht : Term rest) :
    jsonInteger (printU32 n ++ rest) = .ok false n (printU32 n).length ∧
    coerceU 4294967296 false n = some n :=
  ⟨scan_prints (Fits.prints (klen32_fits n h)) (by omega) rest ht, C19_unsigned_complete _ _ h⟩

theorem C19_roundtrip_u16 (n : Nat) (h : n < 65536) (rest : List Nat) (ht : Term rest) :
    jsonInteger (printU16 n ++ rest) = .ok false n (printU16 n).length ∧
    coerceU 65536 false n = some n :=
  ⟨scan_prints (Fits.prints (klen16_fits n h)) (by omega) rest ht, C19_unsigned_complete _ _ h⟩

theorem C19_roundtrip_u8 (n : Nat) (h : n < 256) (rest : List Nat) (ht : Term rest) :
    jsonInteger (printU8 n ++ rest) = .ok false n (printU8 n).length ∧
    coerceU 256 false n = some n :=
  ⟨scan_prints (Fits.prints (klen8_fits n h)) (by omega) rest ht, C19_unsigned_complete _ _ h⟩

/-- … and on `int64_t`, `int32_t`, `int16_t`, `int8_t`, the minimum included (the statement leaves the
number of characters consumed open: `∃ k`) -/
theorem C19_roundtrip_i64 (i : Int) (hlo : -9223372036854775808 ≤ i) (hhi : i < 9223372036854775808)
    (rest : List Nat) (ht : Term rest) :
    ∃ k, jsonInteger (printI64 i ++ rest) = .ok (decide (i < 0)) i.natAbs k ∧
         coerceS 9223372036854775808 (decide (i < 0)) i.natAbs = some i :=
  have hpu : ∀ n, n ≤ 9223372036854775808 → Prints (printU64 n) n := fun n hn =>
    printU64_prints (Nat.lt_of_le_of_lt hn (by decide))
  have ⟨k, hk⟩ := scan_printI Nat.le.refl printU64 hpu i hlo hhi rest ht
  ⟨k, hk, C19_signed_complete (by decide) (by decide) i hlo hhi⟩

theorem C19_roundtrip_i32 (i : Int) (hlo : -2147483648 ≤ i) (hhi : i < 2147483648)
    (rest : List Nat) (ht : Term rest) :
    ∃ k, jsonInteger (printI32 i ++ rest) = .ok (decide (i < 0)) i.natAbs k ∧
         coerceS 2147483648 (decide (i < 0)) i.natAbs = some i :=
  have hpu : ∀ n, n ≤ 2147483648 → Prints (printU32 n) n := fun n hn =>
    Fits.prints (klen32_fits n (Nat.lt_of_le_of_lt hn (by decide)))
  have ⟨k, hk⟩ := scan_printI (by decide) printU32 hpu i hlo hhi rest ht
  ⟨k, hk, C19_signed_complete (by decide) (by decide) i hlo hhi⟩

theorem C19_roundtrip_i16 (i : Int) (hlo : -32768 ≤ i) (hhi : i < 32768)
    (rest : List Nat) (ht : Term rest) :
    ∃ k, jsonInteger (printI16 i ++ rest) = .ok (decide (i < 0)) i.natAbs k ∧
         coerceS 32768 (decide (i < 0)) i.natAbs = some i :=
  have hpu : ∀ n, n ≤ 32768 → Prints (printU16 n) n := fun n hn =>
    Fits.prints (klen16_fits n (Nat.lt_of_le_of_lt hn (by decide)))
  have ⟨k, hk⟩ := scan_printI (by decide) printU16 hpu i hlo hhi rest ht
  ⟨k, hk, C19_signed_complete (by decide) (by decide) i hlo hhi⟩

theorem C19_roundtrip_i8 (i : Int) (hlo : -128 ≤ i) (hhi : i < 128)
    (rest : List Nat) (ht : Term rest) :
    ∃ k, jsonInteger (printI8 i ++ rest) = .ok (decide (i < 0)) i.natAbs k ∧
         coerceS 128 (decide (i < 0)) i.natAbs = some i :=
  have hpu : ∀ n, n ≤ 128 → Prints (printU8 n) n := fun n hn =>
    Fits.prints (klen8_fits n (Nat.lt_of_le_of_lt hn (by decide)))
  have ⟨k, hk⟩ := scan_printI (by decide) printU8 hpu i hlo hhi rest ht
  ⟨k, hk, C19_signed_complete (by decide) (by decide) i hlo hhi⟩

example : printU64 18446744073709551615 = [49,56,52,52,54,55,52,52,48,55,51,55,48,57,53,53,49,54,49,53] := by decide
example : printI64 (-9223372036854775808) = 45 :: [57,50,50,51,51,55,50,48,51,54,56,53,52,55,55,53,56,48,56] := by decide
example : Term [44] := by intro c cs e; injection e with e1 _; subst e1; decide
example : jsonInteger ([49,50,51] ++ [44]) = .ok false 123 3 := by decide

end Flatcc.Num
