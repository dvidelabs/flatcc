import FlatccModel.Props.C09
/-!
# C09 — deprecating fields

A deprecated field keeps its id but the generated verifier no longer checks it (and no accessor is generated). At the level of the
verifier's call lists the new schema `B` is the old schema `A` minus the deprecated fields: `Extends B A`.
-/
namespace Flatcc.Verifier

/-- deprecation, old to new: every buffer the old verifier accepts — in particular every buffer built with the old code, with the
fields that were later deprecated present or absent — is accepted by the new verifier, for ALL byte strings -/
theorem C09_deprecation_old_to_new {A B : Schema} (D : Extends B A) (c : Ctx) (idHash t : Nat)
    (h : verifyTableAsRoot A c idHash t = .ok ()) : verifyTableAsRoot B c idHash t = .ok () :=
  C09_new_to_old D c idHash t h

/-- the same for size-prefixed buffers -/
theorem C09_deprecation_old_to_new_with_size {A B : Schema} (D : Extends B A) (c : Ctx) (idHash t : Nat)
    (h : verifyTableAsRootWithSize A c idHash t = .ok ()) : verifyTableAsRootWithSize B c idHash t = .ok () :=
  C09_new_to_old_with_size D c idHash t h

/-- a buffer the old verifier accepts is safe to read with the new reader, which has no accessor for the deprecated fields -/
theorem C09_deprecation_new_reader_safe {A B : Schema} (D : Extends B A) {c : Ctx} {M : Nat} (hm4 : 4 ∣ M) (hmp : M ∣ 4294967296)
    (w : WF B M) (idHash t : Nat) (h : verifyTableAsRoot A c idHash t = .ok ()) :
    ∀ fuel a, a ∈ rootAcc B c fuel t → Safe c a :=
  C09_old_reader_safe D hm4 hmp w idHash t h

/-- non-vacuity: dropping the union field (ids 1, 2) from the call list while the later string field keeps id 3 -/
example : Extends { tables := [[⟨0, false, .scalar 4 4⟩, ⟨3, false, .string⟩]], unions := [[(1, .table 0)]] }
                  { tables := [[⟨0, false, .scalar 4 4⟩, ⟨2, false, .union 0⟩, ⟨3, false, .string⟩]], unions := [[(1, .table 0)]] } := by
  refine ⟨?_, ?_⟩
  · intro t f hf
    match t with
    | 0 => simp [Schema.table] at hf ⊢; rcases hf with rfl | rfl <;> simp
    | t+1 => simp [Schema.table] at hf
  · intro u ty m h
    exact h

end Flatcc.Verifier
