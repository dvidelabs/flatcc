import FlatccModel.TrieProofs
/-!
# C10 — JSON field / enum names dispatch exactly (per generated trie)

`snd` and `cmp` (Trie.lean) are decidable checks run on the actual tree of every generated parser on
every check run; these theorems say what passing them means, for ALL inputs.
-/
namespace Flatcc.Trie

/-- Soundness: if the validated trie dispatches an input to entry `i`, the input really starts with
name `i` followed by the terminator — for every input, of any length, whatever follows. -/
theorem C10_no_false_dispatch (d : List Key) (t : Tree) (h : snd d t [] [] = true) (s : List Nat) (i : Nat)
    (he : eval t s 0 = some i) : i < d.length ∧ Matches s (d.getD i []) :=
  snd_sound d t s 0 [] [] i h ⟨rfl, fun j hj => by simp at hj, fun j hj => by simp at hj⟩ he

/-- Completeness: every declared name, followed by the terminator and by anything at all (or the end
of the buffer), is dispatched to its own entry. -/
theorem C10_every_name_dispatches (d : List Key) (t : Tree) (i : Nat)
    (hkey : ∀ j, j < (d.getD i []).length → (d.getD i []).getD j 0 ≠ term)
    (hc : cmp (d.getD i []) i t 0 = true) (s : List Nat) (hm : Matches s (d.getD i [])) :
    eval t s 0 = some i :=
  cmp_complete (d.getD i []) i hkey t 0 s hm hc

/-- an input matches at most one terminator-free name (a fact of its own: `C10_exact` does not need it) -/
theorem matches_unique (k1 k2 : Key) (s : List Nat) (h1 : Matches s k1) (h2 : Matches s k2)
    (hk1 : ∀ j, j < k1.length → k1.getD j 0 ≠ term) (hk2 : ∀ j, j < k2.length → k2.getD j 0 ≠ term) : k1 = k2 := by
  have hl : k1.length = k2.length := by
    rcases Nat.lt_trichotomy k1.length k2.length with h | h | h
    · exact absurd (by rw [← h2.2.1 _ h]; exact h1.2.2) (hk2 _ h)
    · exact h
    · exact absurd (by rw [← h1.2.1 _ h]; exact h2.2.2) (hk1 _ h)
  have h := matches_bytes h1
  rw [hl, matches_bytes h2] at h
  exact (List.append_cancel_right h).symm

/-- Exactness: a validated trie maps every declared name to that entry and nothing else, and every
input that is not a declared name followed by the terminator to "unmatched". (`hdist`, distinct names, follows from `hc` and
`hterm`; the proof does not use it.) -/
theorem C10_exact (d : List Key) (t : Tree) (hs : snd d t [] [] = true)
    (hc : ∀ i, i < d.length → cmp (d.getD i []) i t 0 = true)
    (hterm : ∀ i, i < d.length → ∀ j, j < (d.getD i []).length → (d.getD i []).getD j 0 ≠ term)
    (hdist : ∀ i j, i < d.length → j < d.length → d.getD i [] = d.getD j [] → i = j) (s : List Nat) :
    (∀ i, i < d.length → Matches s (d.getD i []) → eval t s 0 = some i) ∧
    ((∀ i, i < d.length → ¬ Matches s (d.getD i [])) → eval t s 0 = none) := by
  constructor
  · intro i hi hm
    exact C10_every_name_dispatches d t i (hterm i hi) (hc i hi) s hm
  · intro hno
    cases he : eval t s 0 with
    | none => rfl
    | some i =>
      have := C10_no_false_dispatch d t hs s i he
      exact absurd this.2 (hno i this.1)

example : snd [[97], [97, 98]] (.eqm 2 [97, 98] (.matchAt 1 2 .unmatched) (.eqm 1 [97] (.matchAt 0 1 .unmatched) .unmatched)) [] [] = true := by decide
example : cmp [97] 0 (.eqm 2 [97, 98] (.matchAt 1 2 .unmatched) (.eqm 1 [97] (.matchAt 0 1 .unmatched) .unmatched)) 0 = true := by decide

end Flatcc.Trie
