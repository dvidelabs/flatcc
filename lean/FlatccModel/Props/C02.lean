import FlatccModel.BuilderHeader
import FlatccModel.Props.C03
/-!
# C02 — whatever the builder finishes is a valid FlatBuffer (model-level theorems)

Per created object: placement (alignment for its type at its absolute address in the emit address space, which the
buffer header then aligns to the reported alignment), vtable well-formedness, forward in-range offsets. The composition
over whole value trees and the verifier's acceptance are checked by execution on every generated case
(tools/props/c02.py), not proved; see DESIGN.md. (`build` / `buildFrom` go through the `partial def`s `buildVal` /
`buildFields`, which the kernel cannot unfold: the provable form of a build history is `BOp` / `runOps` of `BuilderReplay.lean`.)
A vtable reference is the vtable's address plus one (`create_vtable` returns `ref + 1` so that 0 can mean failure), hence
the `- 1` in the vtable statements.
-/
namespace Flatcc.Props.C02
open Flatcc.Builder Flatcc.Props.C03

/-- `front_pad`: the payload of an object emitted at the front with this padding starts at an aligned address -/
theorem C02_front_pad_aligned (s : BS) (size align : Nat) (h : 0 < align) :
    (s.emitStart - size - frontPad s size align) % (align : Int) = 0 := frontPad_spec s size align h

/-- a string starts 4-aligned (its length field) and the byte after its content is a zero inside the emitted object -/
theorem C02_string_placed (s : BS) (d : List Nat) :
    (createString s d).2 % 4 = 0 ∧ ((createString s d).1.front.drop (4 + d.length)).head? = some 0 :=
  ⟨createString_aligned s d, createString_terminated s d⟩

/-- the first element of a vector is aligned to max(align, 4), whatever was emitted before -/
theorem C02_vector_placed (s : BS) (d : List Nat) (count align : Nat) :
    ((createVector s d count align).2 + 4) % ((max align 4 : Nat) : Int) = 0 := createVector_aligned s d count align

/-- a separately created struct starts at an address aligned to its alignment -/
theorem C02_struct_placed (s : BS) (d : List Nat) (align : Nat) (h : 0 < align) :
    (createStruct s d align).2 % (align : Int) = 0 := by
  have := emitFront_aligned (setMinAlign s align) (d ++ zeros (frontPad s d.length align)) 0 d.length align h
    (by rw [List.length_append, zeros_length, Nat.zero_add, setMinAlign_frontPad])
  rw [createStruct_eq]
  simpa using this

/-- a vtable emitted in front (nested buffer, or clustering disabled) starts at an even address, whatever was emitted
before it: the `front_pad(B, vt_size, sizeof(voffset_t))` piece pushed in `flatcc_builder_create_vtable` -/
theorem C02_vtable_front_placed (s : BS) (vt : List Nat) (h : ¬ (s.nestId = 0 ∧ s.clustering)) :
    ((createVtable s vt).2 - 1) % 2 = 0 := by
  have := emitFront_aligned s (vt ++ zeros (frontPad s vt.length 2)) 0 vt.length 2 (by decide)
    (by rw [List.length_append, zeros_length, Nat.zero_add])
  rw [createVtable_front s vt h]
  simpa using this

/-- a clustered vtable goes to the end of the buffer, which stays even -/
theorem C02_vtable_back_placed (s : BS) (vt : List Nat) (h : s.nestId = 0 ∧ s.clustering) (he : s.back.length % 2 = 0)
    (hv : vt.length % 2 = 0) :
    ((createVtable s vt).2 - 1) % 2 = 0 ∧ (createVtable s vt).1.back.length % 2 = 0 := by
  rw [createVtable_back s vt h, emitBack_ref, emitBack_back, List.length_append, Int.add_sub_cancel]
  -- `↑n % 2` unfolds to `↑(n % 2)`; omega is slow here
  exact ⟨congrArg Nat.cast he, by rw [Nat.add_mod, he, hv]⟩

/-- the table starts 4-aligned and its first field position is aligned to the table's alignment -/
theorem C02_table_placed (s : BS) (fs : List (Nat × FieldVal)) (vtRef : Int) (h : FrameOK fs) :
    ((createTable s (layoutTable fs) vtRef).2 + 4) % (((layoutTable fs).align : Nat) : Int) = 0 ∧
    (createTable s (layoutTable fs) vtRef).2 % 4 = 0 := by
  obtain ⟨hd, he⟩ := h.align4
  have ha := createTable_aligned s (layoutTable fs) vtRef h.offsBound
  rw [he] at ha hd
  have h4 : (4 : Int) ∣ (createTable s (layoutTable fs) vtRef).2 + 4 :=
    Int.dvd_trans (Int.natCast_dvd_natCast.mpr hd) (Int.dvd_of_emod_eq_zero ha)
  exact ⟨ha, Int.emod_eq_zero_of_dvd ((Int.dvd_add_left (Int.dvd_refl 4)).mp h4)⟩

/-- the vtable `end_table` emits: its own size first, the table size second, and for every added scalar or struct
field (`FieldVal.inl`; offset fields are not covered) an entry that keeps the field inside the table -/
theorem C02_vtable_wellformed (fs : List (Nat × FieldVal)) (h : FrameOK fs) :
    rd16 (vtableBytes (layoutTable fs)) 0 = (vtableBytes (layoutTable fs)).length ∧
    rd16 (vtableBytes (layoutTable fs)) 2 = (layoutTable fs).data.length + 4 ∧
    ∀ id size align bytes, (id, FieldVal.inl size align bytes) ∈ fs →
      4 ≤ vtLookup (vtableBytes (layoutTable fs)) id ∧
      vtLookup (vtableBytes (layoutTable fs)) id + size ≤ (layoutTable fs).data.length + 4 := by
  refine ⟨?_, ?_, ?_⟩
  · rw [vtableBytes_length]
    exact rd16_of_slice _ 0 _ (vtableBytes_size _) h.vtRange
  · refine rd16_of_slice _ 2 _ ?_ h.tRange
    rw [vtableBytes_eq, List.append_assoc]
    exact slice_mid (le16 _) (le16 _) _ 2 2 rfl rfl
  · intro id size align bytes hf
    obtain ⟨_, p, he, hp⟩ := entry_of_field fs h _ hf
    rw [he, Nat.add_right_comm]
    exact ⟨Nat.le_add_left 4 p, Nat.add_le_add_right hp.2.1 4⟩

/-- signed reading of a 32-bit word (`soffset_t`) -/
def s32 (x : Nat) : Int := if x < 2147483648 then x else (x : Int) - 4294967296

theorem s32_u32 (d : Int) (h : -2147483648 ≤ d ∧ d < 2147483648) : s32 (u32 d) = d := by
  have hu : (u32 d : Int) = d % 4294967296 := Int.toNat_of_nonneg (Int.emod_nonneg d (by decide))
  -- omega is slow on the `%`; with the test read in `Int`, `s32 (u32 d)` is `Int.bmod d 4294967296` unfolded
  simp only [s32, ← Int.ofNat_lt, hu]
  exact Int.bmod_eq_of_le (m := 4294967296) h.1 h.2

/-- the table's first word leads back to its vtable: `table address - soffset = vtable address` (clustered vtables lie
after the table, the difference is negative; vtables emitted in front lie before it) -/
theorem C02_vtable_link (s : BS) (fs : List (Nat × FieldVal)) (vtRef : Int) (h : FrameOK fs)
    (hr : -2147483648 ≤ (createTable s (layoutTable fs) vtRef).2 - (vtRef - 1) ∧
          (createTable s (layoutTable fs) vtRef).2 - (vtRef - 1) < 2147483648) :
    (createTable s (layoutTable fs) vtRef).2 - s32 (rd32 (tableImage s (layoutTable fs) vtRef) 0) = vtRef - 1 := by
  rw [createTable_ref _ _ _ h.offsBound] at hr ⊢
  rw [tableImage_head, s32_u32 _ hr, Int.sub_sub_self]

/-- offsets stored in a table point forward to the referenced object and are non-zero (restated from C03) -/
theorem C02_offsets_forward (s : BS) (fs : List (Nat × FieldVal)) (vtRef : Int) (h : FrameOK fs)
    (id : Nat) (r : Int) (hf : (id, FieldVal.off r) ∈ fs)
    (hr : s.emitStart ≤ r) (hr2 : r - (createTable s (layoutTable fs) vtRef).2 < 4294967296) :
    0 < rd32 (tableImage s (layoutTable fs) vtRef) (vtLookup (vtableBytes (layoutTable fs)) id) ∧
    (createTable s (layoutTable fs) vtRef).2 + vtLookup (vtableBytes (layoutTable fs)) id +
      rd32 (tableImage s (layoutTable fs) vtRef) (vtLookup (vtableBytes (layoutTable fs)) id) = r :=
  (C03_offset_field s fs vtRef h id r hf hr hr2).2.2

/-- **Top-level buffer header.** The finished buffer starts at an address aligned to `bufAlign s a` (the requested alignment
`a`, the offset size and the block alignment), the alignment the builder then reports is at least that, and the root offset
field leads to the root object. The start is aligned to the *reported* alignment, so that every object aligned at its absolute
address is aligned relative to the buffer start, when `a ≥ s.minAlign`: that is what `end_buffer` passes, and it is not part of
the statement (with a smaller `a` the C function and the model both return a start that is not). -/
theorem C02_buffer_header (s : BS) (ident : List Nat) (rootRef : Int) (a : Nat)
    (hroot : s.emitStart ≤ rootRef) (hr2 : rootRef - (createBuffer s ident rootRef a false).2 < 4294967296) :
    let r := createBuffer s ident rootRef a false
    let off := if s.withSize then 4 else 0
    r.2 % (bufAlign s a : Int) = 0 ∧ bufAlign s a ≤ r.1.minAlign ∧ r.2 = r.1.emitStart ∧
    r.2 + off + rd32 r.1.front off = rootRef := by
  intro r off
  obtain ⟨h1, h2, h3, h4, _⟩ := createBuffer_header s ident rootRef a false
  simp only [Bool.false_or] at h1
  rw [Int.add_sub_cancel] at h1
  exact ⟨h1, h2, h3, h4 hroot (sub_natAdd_lt hr2)⟩

end Flatcc.Props.C02
