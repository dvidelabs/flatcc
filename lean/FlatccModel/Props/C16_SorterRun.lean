import FlatccModel.SorterRunProofs
/-!
# C16 — "Recursive table sort sorts exactly the vectors marked sorted": what the chain of sorters does

`Flatcc.Sortable.sortVal S st mk` runs the generated sorters on a value: `mk` = which types have a `<T>_sort` (members whose
type has none are skipped), `st` stands for the in-place sort of one vector (the theorems here hold for any `st`; what the heap sort does is Props/C16).
`sortVal S st (fun _ => true)` is the sorter that skips nothing: it reaches every non-deprecated member at every depth.
tools/props/c16.py `sortable_stage` compares the generated sorter bodies (own `sorted` members, members descended into) with
exactly these rules.
-/
namespace Flatcc.Sortable

/-- skipping an unmarked member loses nothing: below a type without a sorter there is no non-deprecated vector marked sorted
at all, however deep and through whatever chain of non-deprecated table, union and vector members -/
theorem C16_unmarked_has_nothing_to_sort (ts : List Ty) (r : Marks) (h : markSortable ts = some r) (i : Nat)
    (hi : get r i = false) : ∀ j t, Path ts i j → ts[j]? = some t → t.direct = false := by
  intro j t hp hj
  cases hd : t.direct with
  | false => rfl
  | true =>
    have := ((markSortable_iff_reach ts r h).2 i).mpr (reach_of_path hp hj hd)
    rw [hi] at this; cases this

/-- and no sorter is idle: from every marked type some chain of members leads to a type with a vector marked sorted -/
theorem C16_marked_has_something_to_sort (ts : List Ty) (r : Marks) (h : markSortable ts = some r) (i : Nat)
    (hi : get r i = true) : ∃ j t, Path ts i j ∧ ts[j]? = some t ∧ t.direct = true :=
  path_of_reach (((markSortable_iff_reach ts r h).2 i).mp hi)

/-- with the marks of `mark_sortable`, the generated sorters do to every value of the declared shape exactly what the sorter that
    descends into every non-deprecated member does: every non-deprecated vector marked sorted, at any depth below the root, behind
    any chain of table members, unions, table vectors and union vectors, is handed to the vector sort -/
theorem C16_recursive_sort_reaches_all (S : Schema) (st : Val → Val) (r : Marks)
    (h : markSortable (S.map toTy) = some r) (v : Val) (t : Nat) (hc : confVal S t v = true) :
    sortVal S st (get r) v = sortVal S st (fun _ => true) v :=
  skip_eq_val S st (get r) (marksOK_of_markSortable S r h) v t hc

/-- nothing but the vectors marked sorted is touched: a sorter whose vector sort is the identity is the identity (for any marks) -/
theorem C16_recursive_sort_touches_only_sorted (S : Schema) (mk : Nat → Bool) (v : Val) :
    sortVal S (fun x => x) mk v = v :=
  sort_id_val S mk v

/-- the demo's schema, parents declared first: a union between the root and the table with the sorted vector, which also has
a deprecated sorted vector and an unsorted one; a sibling table with nothing to sort -/
def demoS : Schema :=
  [ [⟨false, false, some 1⟩, ⟨false, false, some 3⟩],       -- table Root { u:U; p:Plain; }
    [⟨false, false, some 2⟩],                               -- union U { D }
    [⟨false, true, none⟩, ⟨true, true, none⟩, ⟨false, false, none⟩],  -- table D { v:[int](sorted); w:[int](sorted, deprecated); x:[int]; }
    [⟨false, false, none⟩] ]                                -- table Plain { x:[int]; }
/-- sorted insertion, for `demoSt` -/
def ins (a : Int) : List Int → List Int
  | [] => [a]
  | b :: bs => if a ≤ b then a :: b :: bs else b :: ins a bs
/-- the demo's vector sort: insertion sort of a leaf -/
def demoSt : Val → Val
  | .leaf xs => .leaf (xs.foldr ins [])
  | v => v
def demoV : Val :=
  .node 0 [.node 1 [.node 2 [.leaf [3, 1, 2], .leaf [9, 8], .leaf [7, 6]]], .node 3 [.leaf [5, 4]]]
example : markSortable (demoS.map toTy) = some [true, true, true, false] := by decide
example : confVal demoS 0 demoV = true := by decide
example : sortVal demoS demoSt (get [true, true, true, false]) demoV =
    .node 0 [.node 1 [.node 2 [.leaf [1, 2, 3], .leaf [9, 8], .leaf [7, 6]]], .node 3 [.leaf [5, 4]]] := by rfl

end Flatcc.Sortable
