import FlatccModel.BuilderReplayProofs
/-!
# C12 — the emit calls of the builder tile one contiguous range

The builder model reaches the emitter only through `emitFront` / `emitBack`, which record `(offset, length)` of the call
(what a recording `flatcc_builder_emit_fun` sees). `replay` re-reads such a record from the oldest call, starting from
`(0, 0)`: a front call has offset `start − length` (the range grows strictly downward), a back call is non-empty and
has offset `end` (strictly upward). For EVERY sequence of builder operations (`BOp`, any arguments, nesting included)
the record replays to exactly the builder's `[emit_start, emit_end)`. The pieces (`iov`) of one call: `Props/C12_Iov.lean`.
`runOps` is the provable form of a build: the driver's `build` goes through `partial def`s (`buildVal`, `buildFields`) the kernel
cannot unfold, and is made of the same operations, with references remembered by the caller.
-/
namespace Flatcc.Builder

/-- C12 (builder side): for EVERY history of builder operations the recorded emit calls describe one contiguous range that
starts at zero, grows strictly downward at the front and strictly upward at the back, and is exactly `[emit_start, emit_end)` -/
theorem C12_builder_emits_tile (ops : List BOp) : Tiled (runOps ops).1 :=
  foldl_stepOp_tiled ops (initBS, []) rfl

/-- what `Tiled` says about two consecutive calls, spelled out: a recorded call either starts exactly `length` below the
previous start (front) or exactly at the previous end (back) -/
theorem C12_replay_step (e : Int × Nat) (rest : List (Int × Nat)) (se : Int × Int) (h : replay (e :: rest) = some se) :
    ∃ prev, replay rest = some prev ∧
      ((e.1 = prev.1 - (e.2 : Int) ∧ e.1 < prev.1 ∧ se = (e.1, prev.2)) ∨
       (e.1 = prev.2 ∧ 0 < e.2 ∧ se = (prev.1, prev.2 + (e.2 : Int)))) := by
  unfold replay at h
  cases hr : replay rest with
  | none => rw [hr] at h; cases h
  | some prev =>
    rw [hr] at h
    exact ⟨prev, rfl, stepOK_some prev se e h⟩

/-- non-vacuity: a string, a table referring to it, and the buffer header, on a fresh builder with vtable clustering: three front calls (string, table, header) and two back calls (vtable, end padding) -/
example : (runOps [.startBuf 0 false, .str [104, 105], .table [(0, .off (-8))], .endBuf [] (-20)]).1.emits.length = 5 := by decide

end Flatcc.Builder
