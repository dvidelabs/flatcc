import FlatccModel.EmitterProofs
/-!
# C12 — the default emitter returns the emitted stream intact

`Em.content` is the abstract stream.  Front emits prepend, back emits append — whatever the page
size (≥ 2), however the data is split into iov pieces, across any number of page boundaries —
and copy / direct access return exactly that stream. (`Flatcc.Emitter.emitFront` / `emitBack` take the pieces of a call to the
emitter state `Em`; the builder model's functions of the same names, `Flatcc.Builder.emitFront` / `emitBack`, record the call
on `BS`. The two models meet only in that `C12_history` holds for every history of emit calls, the builder's among them.)
-/
namespace Flatcc.Emitter

theorem foldl_prepend (ps : List (List Nat)) (l : List Nat) : ps.reverse.foldl (fun l p => p ++ l) l = ps.flatten ++ l := by
  simpa using List.foldl_flip_append_eq_append (l := ps.reverse) (f := id) (l' := l)

theorem foldl_append (ps : List (List Nat)) (l : List Nat) : ps.foldl (fun l p => l ++ p) l = l ++ ps.flatten := by
  simpa using List.foldl_append_eq_append (l := ps) (f := id) (l' := l)

/-- a front emit call prepends its pieces (in address order) to the stream -/
theorem C12_emit_front {s : Em} {l : List Nat} (h : Holds s l) (iov : List (List Nat)) :
    Holds (emitFront s iov) (iov.flatten ++ l) := by
  have hu := holds_used h (s.used + (iov.map List.length).sum)
  simp only [emitFront]
  split
  · rename_i hfit
    exact holds_pushFront hu (List.length_flatten ▸ hfit)
  · -- piece by piece, last piece first
    have hpiece : ∀ {s : Em} {l : List Nat} (p : List Nat), Holds s l →
        Holds (copyFront (fuelFor s p.length) s p) (p ++ l) :=
      fun {s} _ p hs => holds_copyFront _ p hs (fuelFor_ok s p.length (s.frontLeft = 0))
    have := holds_foldl (g := fun l p => p ++ l) hpiece iov.reverse hu
    rwa [foldl_prepend] at this

/-- a back emit call appends its pieces -/
theorem C12_emit_back {s : Em} {l : List Nat} (h : Holds s l) (iov : List (List Nat)) :
    Holds (emitBack s iov) (l ++ iov.flatten) := by
  have hu := holds_used h (s.used + (iov.map List.length).sum)
  simp only [emitBack]
  split
  · rename_i hfit
    exact holds_pushBack hu (List.length_flatten ▸ hfit)
  · have hpiece : ∀ {s : Em} {l : List Nat} (p : List Nat), Holds s l →
        Holds (copyBack (fuelFor s p.length) s p) (l ++ p) :=
      fun {s} _ p hs => holds_copyBack _ p hs (fuelFor_ok s p.length (s.backLeft = 0))
    have := holds_foldl (g := fun l p => l ++ p) hpiece iov hu
    rwa [foldl_append] at this

/-- one emit call of a build history -/
inductive Emit
  | front (iov : List (List Nat))
  | back (iov : List (List Nat))

/-- the emitter after one call of the history -/
def step (s : Em) : Emit → Em
  | .front iov => emitFront s iov
  | .back iov => emitBack s iov

/-- the stream described by a history, built left to right from the empty stream -/
def streamOf (ops : List Emit) : List Nat :=
  ops.foldl (fun acc op => match op with | .front iov => iov.flatten ++ acc | .back iov => acc ++ iov.flatten) []

/-- one call of a history acts on the stream as `streamOf` folds it -/
theorem C12_step {s : Em} {l : List Nat} (h : Holds s l) : ∀ op, Holds (step s op)
    (match op with | .front iov => iov.flatten ++ l | .back iov => l ++ iov.flatten)
  | .front iov => C12_emit_front h iov
  | .back iov => C12_emit_back h iov

/-- For every build history (any number of calls, any piece sizes, any page size ≥ 2) the emitter holds
exactly the emitted stream in address order. -/
theorem C12_history (page : Nat) (hp : 2 ≤ page) (ops : List Emit) :
    (ops.foldl step (Em.init page)).content = streamOf ops :=
  (holds_foldl (fun op h => C12_step h op) ops (holds_init hp)).eq

/-- `copy_buffer` hands back exactly the stream the emitter holds, or NULL (`none`). -/
theorem C12_copy (s : Em) (size : Nat) (l : List Nat) (h : copyBuffer s size = some l) : l = s.content := by
  unfold copyBuffer at h
  split at h
  · contradiction
  · split at h
    · contradiction
    · injection h with h; exact h.symm

/-- Direct access, whenever it is offered, hands back exactly the stream the emitter holds. -/
theorem C12_direct (s : Em) (l : List Nat) (h : directBuffer s = some l) : l = s.content := by
  unfold directBuffer at h
  split at h
  · rename_i hc
    simp only [Bool.and_eq_true, List.isEmpty_iff] at hc
    injection h with h
    unfold Em.content
    rw [hc.1.2, hc.2, ← h]; simp
  · contradiction

/-- reset leaves an empty stream, or the emitter has no page yet and is left as it was -/
theorem C12_reset (s : Em) : (reset s).content = [] ∨ (s.started = false ∧ reset s = s) := by
  unfold reset
  split
  · right; rename_i h; exact ⟨by simpa using h, rfl⟩
  · left; simp [Em.content]

example : ((([Emit.front [[1, 2], [3]], Emit.back [[9]], Emit.front [[0]]]).foldl step (Em.init 4)).content) = [0, 1, 2, 3, 9] := by decide

end Flatcc.Emitter
