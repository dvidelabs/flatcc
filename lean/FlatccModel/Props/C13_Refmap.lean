import FlatccModel.RefmapFaultProofs
/-!
# C13 — the reference map under allocation failure

`stepF hash m op allocOk` is one public call of refmap.c with the allocator's answer for requests made
during the call (`false` = FLATCC_CALLOC returns NULL).  Any hash function, any history, any schedule of
refusals.
-/
namespace Flatcc.Refmap

/-- a resize that cannot get its table reports -1 and leaves the map exactly as it was (`stepF … (.rsz n) false` unfolds to
`resizeF`) -/
theorem C13_refmap_resize_refused (hash : Nat → Nat) (m : Map) (n : Nat)
    (h : (stepF hash m (.rsz n) false).2 ≠ 0) :
    (stepF hash m (.rsz n) false).1 = m ∧ (stepF hash m (.rsz n) false).2 = -1 :=
  resizeF_atomic hash m n h

/-- an insert whose growth step cannot get its table returns not-found and stores nothing;
an insert that needs no allocation is served as usual -/
theorem C13_refmap_insert_refused (hash : Nat → Nat) (m : Map) (s : Nat) (r : Int) :
    (effective m (.ins s r) false = .fnd s ∧ stepF hash m (.ins s r) false = (m, 0)) ∨
    (effective m (.ins s r) false = .ins s r ∧ stepF hash m (.ins s r) false = step hash m (.ins s r)) :=
  insertF_cases hash m s r

/-- for EVERY history of calls and EVERY schedule of allocator refusals the map stays in a good state
(no table yet, or: an empty slot exists, so probes terminate, and count = occupied slots) and answers exactly as the abstract
map of the operations that took effect -/
theorem C13_refmap_history (hash : Nat → Nat) (ops : List (Op × Bool)) :
    Good hash (runF hash ops).1 ∧ ∀ k, find' hash (runF hash ops).1 k = spec (runF hash ops).2 k :=
  List.foldlRecOn (motive := fun st : Map × List Op => Good hash st.1 ∧ ∀ k, find' hash st.1 k = spec st.2 k)
    ops _ ⟨init_good hash, fun _ => rfl⟩ (fun st Gh o _ => stepF_spec hash st.1 o.1 o.2 st.2 Gh.1 Gh.2)

/-- a call the allocator serves is the fault-free call of C18 and takes effect as itself -/
theorem C13_refmap_no_fault_is_C18 (hash : Nat → Nat) (m : Map) (op : Op) :
    stepF hash m op true = step hash m op ∧ effective m op true = op :=
  ⟨stepF_true hash m op, effective_true m op⟩

/-- non-vacuity: with 5 keys in the embedded 8-bucket table the growth for the 6th needs the allocator; the initial map
does not (its first table is the embedded one) -/
example : needsAlloc { count := 5, rm := { buckets := 8, table := #[] } } 10 = true := by decide
example : needsAlloc Map.init 0 = false := by decide

end Flatcc.Refmap
