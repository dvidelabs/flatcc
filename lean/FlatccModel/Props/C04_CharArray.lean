import FlatccModel.CharArrayProofs
/-! ## fixed-length char arrays (`flatcc_json_parser_char_array`, `CharArray.lean`) -/
namespace Flatcc.Props.C04
open Flatcc.CharArray

/-- **The char array is never overrun.** For EVERY text, array length and flag set: the variant of the model that checks every
store against the array bounds (and `n -= k` against wrap-around) equals the unchecked one, the model's fuel is never what
ends a call, and a successful call has stored exactly `N` bytes. (The unchecked variant has no `writeOutside` answer, so
the equality says the checked one never gives it: `charArrayG_never_outside` is that statement.) -/
theorem C04_char_array_in_bounds (N : Nat) (f : Flags) (text : List Nat) :
    charArrayG N f text = charArray N f text ∧
    charArray N f text ≠ .error .outOfFuel ∧
    (∀ w rest, charArray N f text = .ok (w, rest) → w.length = N) :=
  ⟨charArrayG_eq N f text, charArray_never_out_of_fuel N f text, fun w rest h => charArray_writes_exactly_N N f text w rest h⟩

/-- **… and holds what it should.** When the text is a well-formed JSON string `s` (by the string scanner of C05), the result
is: overflow error if `|s| > N` without `skip_array_overflow`; underflow error if `|s| < N` with `reject_array_underflow`;
otherwise the first `N` bytes of `s`, zero padded. A malformed string always gives one of the
results `Genuine` admits; one of them, `.silentEnd` (the text ends right behind an escape), is in C a return with no error recorded. -/
theorem C04_char_array_spec (N : Nat) (f : Flags) (text : List Nat) :
    (∀ s rest, Flatcc.Json.parseString text = some (s, rest) → charArray N f text = specResult N f s rest) ∧
    (Flatcc.Json.parseString text = none → ∃ e, charArray N f text = .error e ∧ Genuine f e) :=
  ⟨fun s rest h => charArray_spec N f text s rest h, charArray_spec_none N f text⟩

end Flatcc.Props.C04
