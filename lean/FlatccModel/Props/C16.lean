import FlatccModel.SortProofs
import FlatccModel.FindProofs
import FlatccModel.ScanSwapProofs
/-!
# C16 — in-place sort orders, find finds, scan scans

Property theorems over the model of the generated sort/find/scan text
(`Sort.lean`, `Find.lean`, `ScanSwap.lean`).  `lt x y` is the model of `D(x, y) < 0`.
-/
namespace Flatcc.Sort

variable {α : Type} [Inhabited α]

/-- the sorted vector is a permutation of the original elements -/
theorem C16_sort_perm (lt : α → α → Bool) (a : Array α) : (heapSort lt a).Perm a :=
  heapSort_perm lt a

/-- the sorted vector is in non-decreasing key order, for every strict weak order (any length, any duplicates) -/
theorem C16_sort_sorted (lt : α → α → Bool) (O : StrictWeak lt) (a : Array α) :
    ∀ i j, i < j → j < (heapSort lt a).size → lt (heapSort lt a)[j]! (heapSort lt a)[i]! = false :=
  heapSort_sorted lt O a

/-- the vector keeps its length -/
theorem C16_sort_size (lt : α → α → Bool) (a : Array α) : (heapSort lt a).size = a.size :=
  (heapSort_perm lt a).size_eq

/-- sorting records by a key field: a strict weak order on keys induces one on records -/
theorem C16_key_order {κ : Type} (lt : κ → κ → Bool) (O : StrictWeak lt) (key : α → κ) :
    StrictWeak (fun x y => lt (key x) (key y)) :=
  ⟨fun _ => O.irrefl _, fun _ _ _ => O.trans _ _ _, fun _ _ _ => O.ntrans _ _ _⟩

/-- `__flatbuffers_scalar_diff(x, y) < 0` is a strict weak order on the values of every integer key type -/
theorem C16_scalar_order : StrictWeak scalarLt where
  irrefl x := (scalarLt_eq_false_iff x x).2 (Int.le_refl x)
  trans x y z := by simp only [scalarLt_iff]; exact Int.lt_trans
  ntrans x y z := by simp only [scalarLt_eq_false_iff]; exact fun h1 h2 => Int.le_trans h2 h1

/-- `__flatbuffers_string_diff(x, y) < 0` is a strict weak order on strings without embedded NUL -/
theorem C16_string_order : StrictWeak stringLt where
  irrefl x := by rw [← Bool.not_eq_true, stringLt_iff]; exact List.lt_irrefl _
  trans x y z := by simp only [stringLt_iff]; exact List.lt_trans
  ntrans x y z := by
    simp only [← Bool.not_eq_true, stringLt_iff, List.not_lt]
    exact fun h1 h2 => List.le_trans h2 h1

/-- on strings without embedded NUL the comparator is plain lexicographic byte order (high bytes compare unsigned) -/
theorem C16_string_cmp_is_lex (x y : List Nat) (hx : NulFree x) (hy : NulFree y) :
    stringNCmp x y = lexCmp x y := stringNCmp_eq_lex x y hx hy

/-- offset vectors (strings, tables): when every target lies behind the vector body and below 2^32 (`hfwd`: the arithmetic
does not wrap), the swap exchanges the *targets* of two elements and changes nothing else, so the vector points at the same
objects as before. -/
theorem C16_uoffset_swap_targets (v : Array Nat) (a b : Nat) (ha : a < v.size) (hb : b < v.size)
    (hfwd : ∀ i, i < v.size → 4 * v.size ≤ target v i ∧ target v i < 4294967296) :
    target (uoffsetSwap v a b) a = target v b ∧ target (uoffsetSwap v a b) b = target v a ∧
    (∀ k, k ≠ a → k ≠ b → (uoffsetSwap v a b)[k]! = v[k]!) ∧ (uoffsetSwap v a b).size = v.size :=
  -- targets behind the whole vector lie behind every slot
  uoffsetSwap_targets v a b ha hb
    (Nat.le_trans (Nat.mul_le_mul_left 4 (Nat.le_of_lt ha)) (hfwd b hb).1)
    (Nat.le_trans (Nat.mul_le_mul_left 4 (Nat.le_of_lt hb)) (hfwd a ha).1)
    (hfwd a ha).2 (hfwd b hb).2

/-- a vector sorted by scalar key makes the probe comparison monotone, for every search key -/
theorem C16_sorted_mono (keys : Array Int) (k : Int)
    (hs : ∀ i j, i < j → j < keys.size → scalarLt keys[j]! keys[i]! = false) :
    Mono (fun i => scalarCmp keys[i]! k) keys.size := by
  intro i j hij hj
  apply scalarCmp_mono
  rcases Nat.eq_or_lt_of_le hij with rfl | hlt
  · exact Int.le_refl _
  · exact (scalarLt_eq_false_iff _ _).1 (hs i j hlt hj)

/-- on a vector sorted by the key (`Mono`: the instance from sortedness is `C16_sorted_mono`, for scalar keys; for the string
comparators there is none), find returns the lowest index holding the key -/
theorem C16_find_lowest (cmp : Nat → Int) (len : Nat) (hm : Mono cmp len) (i : Nat)
    (h : find cmp len = some i) : i < len ∧ cmp i = 0 ∧ ∀ j, j < i → cmp j ≠ 0 :=
  find_some cmp len hm i h

/-- on a vector sorted by the key, find returns not-found only if no element holds the key -/
theorem C16_find_not_found (cmp : Nat → Int) (len : Nat) (hm : Mono cmp len)
    (h : find cmp len = none) : ∀ j, j < len → cmp j ≠ 0 :=
  find_none cmp len hm h

/-- scan returns the first matching index in `[begin, min(end, len))` -/
theorem C16_scan_first (cmp : Nat → Int) (len b e r : Nat) (h : scan cmp len b e = some r) :
    b ≤ r ∧ r < e ∧ r < len ∧ cmp r = 0 ∧ ∀ j, b ≤ j → j < r → cmp j ≠ 0 :=
  have ⟨h1, h2, h3, h4⟩ := h ▸ scan_spec cmp len b e
  have ⟨he, hl⟩ := Nat.lt_min.1 h2
  ⟨h1, he, hl, h3, fun j hj1 hj2 => h4 j hj1 (Nat.lt_trans hj2 h2) hj2⟩

/-- scan returns not-found only when `[begin, min(end, len))` holds no match (incl. `begin ≥ end`, `end > len`, the `end`
sentinel) -/
theorem C16_scan_not_found (cmp : Nat → Int) (len b e : Nat) (h : scan cmp len b e = none) :
    ∀ j, b ≤ j → j < e → j < len → cmp j ≠ 0 :=
  fun j h1 h2 h3 => (h ▸ scan_spec cmp len b e) j h1 (Nat.lt_min.2 ⟨h2, h3⟩)

/-- rscan returns the last matching index in `[begin, min(end, len))` -/
theorem C16_rscan_last (cmp : Nat → Int) (len b e r : Nat) (h : rscan cmp len b e = some r) :
    b ≤ r ∧ r < e ∧ r < len ∧ cmp r = 0 ∧ ∀ j, r < j → j < e → j < len → cmp j ≠ 0 :=
  have ⟨h1, h2, h3, h4⟩ := h ▸ rscan_spec cmp len b e
  have ⟨he, hl⟩ := Nat.lt_min.1 h2
  ⟨h1, he, hl, h3, fun j hj1 hj2 hj3 =>
    h4 j (Nat.le_trans h1 (Nat.le_of_lt hj1)) (Nat.lt_min.2 ⟨hj2, hj3⟩) hj1⟩

/-- rscan returns not-found only when `[begin, min(end, len))` holds no match -/
theorem C16_rscan_not_found (cmp : Nat → Int) (len b e : Nat) (h : rscan cmp len b e = none) :
    ∀ j, b ≤ j → j < e → j < len → cmp j ≠ 0 :=
  fun j h1 h2 h3 => (h ▸ rscan_spec cmp len b e) j h1 (Nat.lt_min.2 ⟨h2, h3⟩)

set_option maxRecDepth 8000 in
example : (heapSort scalarLt #[5, -3, 9, 1, 1]).toList = [-3, 1, 1, 5, 9] := by decide
example : find (fun i => scalarCmp (#[1, 3, 3, 3, 9][i]!) 3) 5 = some 1 := by decide
example : scan (fun i => scalarCmp (#[3, 1, 3, 9][i]!) 3) 4 1 18446744073709551615 = some 2 := by decide
example : rscan (fun i => scalarCmp (#[3, 1, 3, 9][i]!) 3) 4 0 2 = some 0 := by decide
example : (uoffsetSwap #[100, 200, 300] 0 2).toList = [308, 200, 92] := by decide

end Flatcc.Sort
