import FlatccModel.Props.C03
/-!
# C03 — offset vectors (string vectors, table vectors, union value vectors) and union fields read back exactly

`ovElems`, `ovBase` (the element slots and the address of an offset vector) are defined in `BuilderIov.lean`.
-/
namespace Flatcc.Props.C03
open Flatcc.Builder

theorem createOffsetVector_eq (s : BS) (refs : List Int) :
    createOffsetVector s refs =
      emitFront (setMinAlign s 4) (le32 refs.length ++ (ovElems (ovBase s refs) refs).flatten ++ zeros (frontPad s (4 * refs.length) 4)) :=
  createOffsetVector_image s refs

/-- **Offset vectors.** The emitted object starts 4-aligned with the element count; element `i` holds 0 for a null reference
(NONE in a union vector) and otherwise the distance from the element's own address to the referenced object, for every object
created earlier: `element address + value = reference` — so the reader finds the same objects in the same order. -/
theorem C03_offset_vector (s : BS) (refs : List Int) (i : Nat) (hi : i < refs.length) (hn : refs.length < 4294967296) :
    let img := (createOffsetVector s refs).1.front
    let v := (createOffsetVector s refs).2
    rd32 img 0 = refs.length ∧ v % 4 = 0 ∧
    (refs[i] = 0 → rd32 img (4 + 4 * i) = 0) ∧
    (refs[i] ≠ 0 → s.emitStart ≤ refs[i] → refs[i] - v < 4294967296 →
      0 < rd32 img (4 + 4 * i) ∧ v + (4 + 4 * i : Nat) + rd32 img (4 + 4 * i) = refs[i]) := by
  intro img v
  have himg : img = le32 refs.length ++ ((ovElems (ovBase s refs) refs).flatten ++
      (zeros (frontPad s (4 * refs.length) 4) ++ (setMinAlign s 4).front)) := by
    show (createOffsetVector s refs).1.front = _
    rw [createOffsetVector_eq, emitFront_front, List.append_assoc, List.append_assoc]
  have hslot : slice img (4 + 4 * i) 4 =
      if refs[i] = 0 then le32 0 else le32 (u32 (refs[i] - (ovBase s refs + (4 + 4 * i : Nat)))) := by
    rw [himg, ← ovElems_get _ _ _ hi]
    exact (slice_skip (le32 _) _ (4 * i) 4).trans (slice_chunk _ _ 4 (ovElems_all4 _ _) i (by rw [ovElems_length]; exact hi))
  rw [show v = ovBase s refs from createOffsetVector_ref s refs]
  refine ⟨?_, ovBase_aligned s refs, fun h0 => ?_, fun hne hge hlt => ?_⟩
  · rw [himg]
    exact rd32_head _ _ hn
  · rw [if_pos h0] at hslot
    exact rd32_of_slice img _ 0 hslot (by decide)
  · -- the element lies below everything emitted before, hence strictly below `refs[i]`
    have hle := ovBase_le s refs
    rw [if_neg hne] at hslot
    exact rd32_offset img _ _ _ hslot (by omega) (sub_natAdd_lt hlt)

/-- **Union fields.** A union is the pair (type code: one inline byte at id − 1, value: an offset field at id). Whatever else the
table holds, the reader finds the type code given and, through the value field, exactly the member object that was referenced. -/
theorem C03_union_field (s : BS) (fs : List (Nat × FieldVal)) (vtRef : Int) (h : FrameOK fs)
    (id ty : Nat) (r : Int) (ht : (id - 1, FieldVal.inl 1 1 [ty]) ∈ fs) (hv : (id, FieldVal.off r) ∈ fs)
    (hr : s.emitStart ≤ r) (hr2 : r - (createTable s (layoutTable fs) vtRef).2 < 4294967296) :
    let t := layoutTable fs
    let et := vtLookup (vtableBytes t) (id - 1)
    let ev := vtLookup (vtableBytes t) id
    et ≠ 0 ∧ slice (tableImage s t vtRef) et 1 = [ty] ∧
    ev ≠ 0 ∧ (createTable s t vtRef).2 + ev + rd32 (tableImage s t vtRef) ev = r := by
  intro t et ev
  have h1 := C03_inline_field s fs vtRef h (id - 1) 1 1 [ty] ht (Nat.le_refl 1)
  have h2 := C03_offset_field s fs vtRef h id r hv hr hr2
  exact ⟨h1.1, h1.2.1, h2.1, h2.2.2.2⟩

/-! Non-vacuity of `C03_offset_vector`: three references, one of them null. -/
example : (createOffsetVector initBS [8, 0, 20]).2 = -16 := by decide

end Flatcc.Props.C03
