import FlatccModel.SortableProofs
/-!
# C16 — "Recursive table sort sorts exactly the vectors marked sorted": which types get a sorter

`Flatcc.Sortable.markSortable` is `mark_sortable` of codegen_c_sorter.c (passes over all tables and unions in the order of the
symbol table visit — a hash order in C, the list order here —, updating in place, until a pass reports the same count as the
one before). The generated `<T>_sort` exists exactly for the marked types, and descends exactly into members whose type is marked (tools/props/c16.py `sortable_stage` compares both with the
generated reader for random type graphs in random declaration orders). Proved here, for every type graph of any size, with cycles,
in any declaration order: the iteration terminates, and a type is marked iff a `sorted` vector can be reached from it — so no
sorted vector behind any chain of table / union / vector members is left out, and no sorter is generated that has nothing to sort.
-/
namespace Flatcc.Sortable

/-- `mark_sortable` terminates (within `#types + 2` passes), whatever the declaration order -/
theorem C16_sortable_terminates (ts : List Ty) : (markSortable ts).isSome = true :=
  markSortable_terminates ts

/-- a type is marked exactly when a `sorted` vector is reachable from it through non-deprecated members -/
theorem C16_sortable_iff_reach (ts : List Ty) (r : Marks) (h : markSortable ts = some r) :
    r.length = ts.length ∧ ∀ i, get r i = true ↔ Reach ts i :=
  markSortable_iff_reach ts r h

/-- the marks do not depend on the order of declaration: declaring the same types in another order (`p` renumbers, `q` is its
    inverse) marks the same types -/
theorem C16_sortable_order_independent (ts ts' : List Ty) (p q : Nat → Nat)
    (hqp : ∀ i, q (p i) = i)
    (hmap : ∀ i t, ts[i]? = some t → ts'[p i]? = some { direct := t.direct, refs := t.refs.map p })
    (hmap' : ∀ j t, ts'[j]? = some t → ts[q j]? = some { direct := t.direct, refs := t.refs.map q })
    (r r' : Marks) (h : markSortable ts = some r) (h' : markSortable ts' = some r') :
    ∀ i, get r' (p i) = get r i := by
  intro i
  have h1 := (markSortable_iff_reach ts r h).2 i
  have h2 := (markSortable_iff_reach ts' r' h').2 (p i)
  have h3 : Reach ts i ↔ Reach ts' (p i) :=
    ⟨reach_renumber ts ts' p hmap i, fun hr => by
      have := reach_renumber ts' ts q hmap' (p i) hr
      rwa [hqp] at this⟩
  rw [Bool.eq_iff_iff]
  exact h2.trans (h3.symm.trans h1.symm)

/-- the two graphs of `Sortable.lean`: one chain, declared root first and leaf first, gets the same marks up to the renumbering -/
example : markSortable chainDown = some [true, true, true, true, false] ∧
    markSortable chainUp = some [false, true, true, true, true] := by decide

end Flatcc.Sortable
