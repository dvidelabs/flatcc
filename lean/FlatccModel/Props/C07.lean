import FlatccModel.Layout
/-!
# C07 — the layout the compiler computes follows the FlatBuffers rules (struct layout, implicit field ids)
-/
namespace Flatcc.Layout

theorem alignUp_ge (s a : Nat) (ha : 0 < a) : s ≤ alignUp s a := by
  have h : s + a - 1 < alignUp s a + a := Nat.lt_div_mul_add ha
  exact Nat.le_of_add_le_add_right (Nat.le_of_pred_lt h)

theorem alignUp_mod (s a : Nat) : alignUp s a % a = 0 := by
  unfold alignUp; exact Nat.mul_mod_left _ _

theorem alignUp_lt (s a : Nat) (ha : 0 < a) : alignUp s a < s + a := by
  have h : s + a - 1 < s + a := Nat.sub_lt (Nat.add_pos_right s ha) Nat.one_pos
  exact Nat.lt_of_le_of_lt (Nat.div_mul_le_self _ a) h

/-- the layout predicate of the FlatBuffers struct rules for a member list starting at running size `s0` -/
def GoodLayout : List Member → List Nat → Nat → Prop
  | [], [], _ => True
  | m :: ms, o :: os, s0 => s0 ≤ o ∧ o % m.align = 0 ∧ o < s0 + m.align ∧ GoodLayout ms os (o + m.size)
  | _, _, _ => False

/-- The member loop from running size `size`, alignment `align`, offsets so far `offs`, returns `(rs, ra, offsets)`:
one new offset per member, obeying the layout rules from `size` on; `ra` is the maximum of `align` and the member
alignments (an upper bound of all, and equal to one of them: what `fa = 0 → …` of `C07_struct_layout` needs);
`rs` has passed `size` and the end of every member (the covering clause). -/
theorem layoutLoop_spec : ∀ (ms : List Member) (size align : Nat) (offs : List Nat),
    (∀ m ∈ ms, 0 < m.align) →
    ∃ rs ra os, layoutLoop ms size align offs = (rs, ra, offs.reverse ++ os) ∧ os.length = ms.length ∧
      GoodLayout ms os size ∧ (∀ m ∈ ms, m.align ≤ ra) ∧ align ≤ ra ∧ (ra = align ∨ ∃ m ∈ ms, ra = m.align) ∧
      size ≤ rs ∧ ∀ p ∈ os.zip ms, p.1 + p.2.size ≤ rs := by
  intro ms
  induction ms with
  | nil =>
    intro size align offs _
    exact ⟨size, align, [], by rw [List.append_nil]; rfl, rfl, trivial, List.forall_mem_nil _, Nat.le_refl _, Or.inl rfl,
      Nat.le_refl _, List.forall_mem_nil _⟩
  | cons m r ih =>
    intro size align offs hpos
    have hm : 0 < m.align := hpos m List.mem_cons_self
    obtain ⟨rs, ra, os, hr, hlen, hgood, hall, hle, hmax, hsize, hcov⟩ :=
      ih (alignUp size m.align + m.size) (max align m.align) (alignUp size m.align :: offs)
        (fun x hx => hpos x (List.mem_cons_of_mem _ hx))
    have hge := alignUp_ge size m.align hm
    refine ⟨rs, ra, alignUp size m.align :: os, ?_, congrArg Nat.succ hlen, ?_, ?_, ?_, ?_,
      Nat.le_trans hge (Nat.le_of_add_right_le hsize), ?_⟩
    · exact hr.trans (by simp)
    · exact ⟨hge, alignUp_mod _ _, alignUp_lt _ _ hm, hgood⟩
    · intro x hx
      rcases List.mem_cons.mp hx with rfl | hx
      · exact Nat.le_trans (Nat.le_max_right _ _) hle
      · exact hall x hx
    · exact Nat.le_trans (Nat.le_max_left _ _) hle
    · rcases hmax with h | ⟨x, hx, h⟩
      · rcases Nat.le_total align m.align with hc | hc
        · exact Or.inr ⟨m, List.mem_cons_self, h.trans (Nat.max_eq_right hc)⟩
        · exact Or.inl (h.trans (Nat.max_eq_left hc))
      · exact Or.inr ⟨x, List.mem_cons_of_mem _ hx, h⟩
    · intro p hp
      rcases List.mem_cons.mp hp with rfl | hp
      · exact hsize
      · exact hcov p hp

theorem le_forceAlign (fa ra : Nat) (h : ¬(fa > 0 ∧ ra > fa)) : ra ≤ if fa > 0 then fa else ra := by
  split <;> omega

/-- the full statement about accepted structs; `C07_struct_layout` is its projection without the last clause (the size
covers every member) -/
theorem layoutStruct_spec (ms : List Member) (fa size align : Nat) (offs : List Nat)
    (hpos : ∀ m ∈ ms, 0 < m.align) (h : layoutStruct ms fa = some (size, align, offs)) :
    offs.length = ms.length ∧ GoodLayout ms offs 0 ∧ size % align = 0 ∧ 0 < size ∧
    (∀ m ∈ ms, m.align ≤ align) ∧
    (fa > 0 → align = fa) ∧ (fa = 0 → align = 1 ∨ ∃ m ∈ ms, align = m.align) ∧
    ∀ p ∈ offs.zip ms, p.1 + p.2.size ≤ size := by
  obtain ⟨rs, ra, os, hr, hlen, hgood, hall, hle, hmax, _, hcov⟩ := layoutLoop_spec ms 0 1 [] hpos
  rw [layoutStruct, hr] at h
  simp only [List.reverse_nil, List.nil_append] at h
  generalize ha : (if fa > 0 then fa else ra) = al at h
  by_cases hfa : fa > 0 ∧ ra > fa
  · rw [if_pos hfa] at h; cases h
  by_cases hz : alignUp rs al = 0
  · rw [if_neg hfa, if_pos hz] at h; cases h
  rw [if_neg hfa, if_neg hz] at h
  cases h
  have hra : ra ≤ align := ha ▸ le_forceAlign fa ra hfa
  refine ⟨hlen, hgood, alignUp_mod _ _, Nat.pos_of_ne_zero hz, fun m hm => Nat.le_trans (hall m hm) hra,
    fun hf => ?_, fun h0 => ?_, fun p hp => Nat.le_trans (hcov p hp) (alignUp_ge _ _ (Nat.lt_of_lt_of_le hle hra))⟩
  · rw [← ha, if_pos hf]
  · rw [← ha, if_neg (Nat.not_lt.mpr (Nat.le_of_eq h0))]; exact hmax

/-- Accepted structs (with the clause that the size covers every member: `layoutStruct_spec`): every member offset is aligned
to the member's alignment, members do not overlap and follow each other with less than one alignment unit of padding, the struct alignment is the
force_align value or the largest member alignment, and the size is a positive multiple of it. -/
theorem C07_struct_layout (ms : List Member) (fa size align : Nat) (offs : List Nat)
    (hpos : ∀ m ∈ ms, 0 < m.align) (h : layoutStruct ms fa = some (size, align, offs)) :
    offs.length = ms.length ∧ GoodLayout ms offs 0 ∧ size % align = 0 ∧ 0 < size ∧
    (∀ m ∈ ms, m.align ≤ align) ∧
    (fa > 0 → align = fa) ∧ (fa = 0 → align = 1 ∨ ∃ m ∈ ms, align = m.align) :=
  have ⟨h1, h2, h3, h4, h5, h6, h7, _⟩ := layoutStruct_spec ms fa size align offs hpos h
  ⟨h1, h2, h3, h4, h5, h6, h7⟩

theorem assignIds_cons (b : Bool) (r : List Bool) (next : Nat) :
    assignIds (b :: r) next = (next + b.toNat) :: assignIds r (next + b.toNat + 1) := by
  cases b <;> rfl

/-- implicit field ids: one per field, none below the start value, a union (vector) field's at least one above it (room
for its hidden type id), strictly increasing. The exact recursion is `assignIds_cons`. -/
theorem C07_ids (fields : List Bool) (start : Nat) :
    (assignIds fields start).length = fields.length ∧
    (∀ i, i < fields.length → start ≤ (assignIds fields start).getD i 0 ∧
      (fields.getD i false = true → start + 1 ≤ (assignIds fields start).getD i 0)) ∧
    List.Pairwise (· < ·) (assignIds fields start) := by
  induction fields generalizing start with
  | nil => exact ⟨rfl, by intro i hi; simp at hi, List.Pairwise.nil⟩
  | cons b r ih =>
    rw [assignIds_cons]
    obtain ⟨h1, h2, h3⟩ := ih (start + b.toNat + 1)
    refine ⟨congrArg Nat.succ h1, fun i hi => ?_, List.Pairwise.cons (fun a ha => ?_) h3⟩
    · cases i with
      | zero =>
        simp only [List.getD_cons_zero]
        exact ⟨Nat.le_add_right _ _, fun hb => by rw [hb]; exact Nat.le_refl _⟩
      | succ i =>
        simp only [List.getD_cons_succ]
        have hs : start + 1 ≤ (assignIds r (start + b.toNat + 1)).getD i 0 :=
          Nat.le_trans (Nat.add_le_add_right (Nat.le_add_right start b.toNat) 1) (h2 i (Nat.lt_of_succ_lt_succ hi)).1
        exact ⟨Nat.le_of_succ_le hs, fun _ => hs⟩
    · obtain ⟨i, hi, rfl⟩ := List.getElem_of_mem ha
      have := (h2 i (h1 ▸ hi)).1
      rw [List.getD_eq_getElem?_getD, List.getElem?_eq_getElem hi] at this
      simp only [Option.getD_some] at this
      exact this

example : layoutStruct [⟨1, 1⟩, ⟨4, 4⟩, ⟨6, 2⟩] 0 = some (16, 4, [0, 4, 8]) := by decide
example : layoutStruct [⟨1, 1⟩] 16 = some (16, 16, [0]) := by decide
example : assignIds [false, true, false, true] 0 = [0, 2, 3, 5] := by decide

end Flatcc.Layout
