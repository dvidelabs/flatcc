import FlatccModel.StructGraphProofs
/-!
# C06 — the schema compiler fails gracefully (the part that is decision logic)

Modelled and proved: the struct hierarchy analysis (`analyze_struct`: depth-first search with open/closed marks and the
nesting limit) and the verdict protocol (success exactly when no diagnostic was reported). Crash freedom, memory
release and the absence of generated output after a failed parse are decided by execution (tools/props/c06.py).
-/
namespace Flatcc.Props.C06
open Flatcc.StructGraph

/-- **Accepted struct hierarchies are well-founded.** If the schema-level pass over any struct reference graph ends
without a diagnostic, then every struct has been closed and the closing order is topological: each struct only contains
structs closed before it — and no struct is left open. (That no struct then contains itself, directly or indirectly, so
that every size is finite, follows from `Topo` and is not stated.) -/
theorem C06_struct_hierarchy_sound (g : Graph) (h : (analyzeAll g).diags = []) :
    (∀ i, i < g.length → i ∈ (analyzeAll g).order) ∧ Topo g (analyzeAll g).order ∧ (analyzeAll g).opened = [] := by
  have := good_fold g g.length
  unfold analyzeAll at h ⊢
  exact ⟨(this.2 h).2, this.1, (this.2 h).1⟩

/-- a self-containing struct and a two-cycle are refused with the circular diagnostic; the third graph is accepted (the
hypothesis of the theorem can be met) -/
example : (analyzeAll [[some 0]]).diags = [.circular] := by decide
example : (analyzeAll [[none, some 1], [some 0]]).diags = [.circular] := by decide
example : (analyzeAll [[some 1], [none]]).diags = [] ∧ (analyzeAll [[some 1], [none]]).order = [1, 0] := by decide

/-- **Verdict protocol** as modelled in this file: success exactly when the diagnostic counter (`P->failed`) is zero.
That the compiler's return value follows it is tied by execution (tools/props/c06.py), not stated here. -/
def verdict (diagnostics : Nat) : Bool := diagnostics == 0
theorem C06_verdict (n : Nat) : verdict n = true ↔ n = 0 := by simp [verdict]

end Flatcc.Props.C06
