import FlatccModel.PrintFlushProofs
/-!
# C11 — the JSON printer's output layer: modes agree, no false success, bounded writes

Statements are about one output event (`Ev`: raw write, checked print, indentation, partial and full flush — what every
printer function is made of) or one call of the output layer; a sequence of events is the reader's composition (`TextOK`
threads the text through `C11_step_text`).
-/
namespace Flatcc.PrintFlush

/-- In the fixed mode a flush test reached with the buffer at or past the flush point sets the overflow flag (that it stays
set: `overflow_flush`): the step behind "success is not reported for text that did not fit". -/
theorem C11_fixed_flush_raises (s : Pr) (hm : s.mode = .fixed) (h : s.buf.length ≥ s.flushSize) :
    (flush s false).overflow = true := by
  simp [overflow_flush, hm, h]

/-- A raw run of fewer than `reserve` bytes stays strictly inside the buffer (one byte is left for the terminator
every flush writes at `p`), provided it starts at a checked point, `p ≤ flushSize` (`hp`), of a buffer with
`flushSize + reserve ≤ size` (`hs`); neither is established here for the states the printer reaches. -/
theorem C11_raw_in_bounds (s : Pr) (d : List Nat) (hp : s.buf.length ≤ s.flushSize)
    (hs : s.flushSize + reserve ≤ s.size) (hd : d.length < reserve) :
    (raw s d).buf.length < (raw s d).size := by
  rw [raw, List.length_append]
  exact Nat.lt_of_lt_of_le (Nat.add_lt_add_of_le_of_lt hp hd) hs

/-- the fast path of `print` leaves `p` strictly below the flush point -/
theorem C11_print_fast_checked (s : Pr) (d : List Nat) (h : ¬ (s.buf.length + d.length ≥ s.flushSize)) :
    (print s d).buf.length < (print s d).flushSize := by
  rw [print, if_neg h, raw, List.length_append]
  exact Nat.lt_of_not_ge h

/-- the growing buffer's flush makes room: afterwards `p ≤ flushSize` again, whenever `p ≤ size` and `size ≥ reserve` -/
theorem C11_dynamic_flush_room (s : Pr) (hm : s.mode = .dynamic) (hp : s.buf.length ≤ s.size) (hs : reserve ≤ s.size) :
    (flush s false).buf.length ≤ (flush s false).flushSize := by
  unfold flush
  simp only [hm]
  split
  · next hlt => exact Nat.le_of_lt hlt
  · have h : s.buf.length + reserve ≤ s.size * 2 := Nat.mul_two _ ▸ Nat.add_le_add hp hs
    exact Nat.le_sub_of_add_le h

/-- after the file flush (which keeps only the spill past the flush point) `p ≤ flushSize` again, when `p` was within the
reserve behind the flush point and the reserve is no larger than the flush size -/
theorem C11_file_flush_spill (s : Pr) (hm : s.mode = .file) (hp : s.buf.length ≤ s.flushSize + reserve)
    (hf : reserve ≤ s.flushSize) : (flush s false).buf.length ≤ (flush s false).flushSize := by
  unfold flush
  simp only [hm]
  split
  · rw [List.length_drop]
    exact Nat.sub_le_of_le_add (Nat.le_trans hp (Nat.add_le_add_left hf _))
  · simp

/-- Whatever output event a printer function performs, in every mode: either overflow is flagged or the text
produced is what was there followed by some `d'` no longer than the event's bytes (`stepEv_run`: a prefix of them). The
prefix can be strict for two reasons, both in `printEx`: the give-up branch `flushSize = 0`, and the fuel of `printExLoop`,
for which no sufficiency lemma is proved. -/
theorem C11_step_text (s : Pr) (e : Ev) (t : List Nat) (h : TextOK s t) :
    ∃ d', TextOK (stepEv s e) (t ++ d') ∧ d'.length ≤ (evBytes e).length :=
  have ⟨d', hp, hr⟩ := stepEv_run s e
  ⟨d', hr.textOK t h, hp.length_le⟩

/-- In the file and growing-buffer modes no output event flags overflow (allocation failure is outside this model). The
statement is about the flag only: that the texts of the modes agree does not follow from it and `C11_step_text`, whose `d'`
is existential per mode. `hfs` is not used. -/
theorem C11_modes_agree_step (s : Pr) (e : Ev) (hm : s.mode ≠ .fixed) (ho : s.overflow = false)
    (hfs : s.flushSize ≠ 0 ∨ s.mode = .dynamic) :
    (stepEv s e).overflow = false :=
  have ⟨_, _, hr⟩ := stepEv_run s e
  (hr.overflow hm).trans ho

/-- a flush test of a fixed buffer that finds `p` below the flush point does not raise overflow (so a text shorter than
`size - reserve` succeeds if `p` never exceeds the text length, which is not stated here) -/
theorem C11_fits_no_overflow (s : Pr) (all : Bool) (hm : s.mode = .fixed) (ho : s.overflow = false)
    (h : s.buf.length < s.flushSize) : (flush s all).overflow = false := by
  simp [overflow_flush, hm, ho, h]

/-- non-vacuity: a checked print of five bytes gives the same text in the file, growing and fixed (size 80) modes; a fixed
buffer of 64 = `reserve` bytes raises overflow instead -/
example : text (stepEv initFile (.print [1,2,3,4,5])) = [1,2,3,4,5] := by decide
example : text (stepEv (initDynamic 64) (.print [1,2,3,4,5])) = [1,2,3,4,5] := by decide
example : (stepEv (initFixed 64) (.print [1,2,3,4,5])).overflow = true := by decide
example : text (stepEv (initFixed 80) (.print [1,2,3,4,5])) = [1,2,3,4,5] := by decide

end Flatcc.PrintFlush
