import FlatccModel.BuilderTable
/-!
# C03 — build then read returns exactly what was written (table frame level)

`fs` is the sequence of `table_add` / `table_add_offset` calls between `start_table` and `end_table`
(any order of ids, each id at most once, as the API demands). `vtableBytes` / `tableImage` are the bytes
`end_table` emits; `vtLookup` is the reader's `__flatbuffers_read_vt`. That the vtable a table links to (at `vtRef - 1`) holds
`vtableBytes (layoutTable fs)` is the business of `create_cached_vtable`: `C14_vtable_once`, `C15_vtable_same_buffer`.
-/
namespace Flatcc.Props.C03
open Flatcc.Builder

/-- The API contract on one table: distinct ids, power-of-two alignments, and the 16-bit voffset range that
`end_table` asserts. -/
structure FrameOK (fs : List (Nat × FieldVal)) : Prop where
  nodup : (fs.map Prod.fst).Nodup
  pow2 : ∀ f ∈ fs, ∀ size align bytes, f.2 = .inl size align bytes → ∃ k, align = 2 ^ k
  vtRange : 2 * ((layoutTable fs).idEnd + 2) < 65536
  tRange : (layoutTable fs).data.length + 4 < 65536

theorem FrameOK.pos {fs : List (Nat × FieldVal)} (h : FrameOK fs) :
    ∀ f ∈ fs, ∀ size align bytes, f.2 = .inl size align bytes → 0 < align := by
  intro f hf size align bytes he
  obtain ⟨k, rfl⟩ := h.pow2 f hf size align bytes he
  exact Nat.two_pow_pos k

theorem FrameOK.fieldAlign_pow2 {fs : List (Nat × FieldVal)} (h : FrameOK fs) : ∀ f ∈ fs, ∃ k, fieldAlign f.2 = 2 ^ k := by
  intro f hf
  cases hv : f.2 with
  | inl size align bytes => exact h.pow2 f hf size align bytes hv
  | off r => exact ⟨2, rfl⟩

theorem FrameOK.align4 {fs : List (Nat × FieldVal)} (h : FrameOK fs) :
    4 ∣ max (layoutTable fs).align 4 ∧ max (layoutTable fs).align 4 = (layoutTable fs).align := by
  obtain ⟨h2, h4, _⟩ := layout_align fs h.fieldAlign_pow2
  rw [Nat.max_eq_left h4]
  exact ⟨pow2_dvd ⟨2, rfl⟩ h2 h4, rfl⟩

theorem FrameOK.fieldAlign_pos {fs : List (Nat × FieldVal)} (h : FrameOK fs) : ∀ f ∈ fs, 0 < fieldAlign f.2 := by
  intro f hf
  obtain ⟨k, hk⟩ := h.fieldAlign_pow2 f hf
  rw [hk]; exact Nat.two_pow_pos k

theorem FrameOK.offsBound {fs : List (Nat × FieldVal)} (h : FrameOK fs) : OffsBound (layoutTable fs) :=
  (layout_fields fs h.fieldAlign_pos).1

theorem FrameOK.fieldAlign_dvd {fs : List (Nat × FieldVal)} (h : FrameOK fs) (f : Nat × FieldVal) (hf : f ∈ fs) :
    fieldAlign f.2 ∣ max (layoutTable fs).align 4 := by
  obtain ⟨h2, h4, hle⟩ := layout_align fs h.fieldAlign_pow2
  rw [Nat.max_eq_left h4]
  exact pow2_dvd (h.fieldAlign_pow2 f hf) h2 (hle f hf)

theorem entry_of_field (fs : List (Nat × FieldVal)) (h : FrameOK fs) (f : Nat × FieldVal) (hf : f ∈ fs) :
    OffsBound (layoutTable fs) ∧
      ∃ p, vtLookup (vtableBytes (layoutTable fs)) f.1 = p + 4 ∧ FieldAt (layoutTable fs) p f.2 := by
  obtain ⟨hob, hall⟩ := layout_fields fs h.fieldAlign_pos
  obtain ⟨hids, hlt⟩ := layout_ids fs
  obtain ⟨p, hm, hp⟩ := hall f hf
  have hfind : vtEntryOf (layoutTable fs) f.1 = p + 4 := vtEntryOf_of_mem _ f.1 (p + 4) hm (by rw [hids]; exact h.nodup)
  have hin : p ≤ (layoutTable fs).data.length := Nat.le_trans (Nat.le_add_right p _) hp.2.1
  have hlt16 : p + 4 < 65536 := Nat.lt_of_le_of_lt (Nat.add_le_add_right hin 4) h.tRange
  rw [vtLookup_vtableBytes _ _ (hlt f hf) h.vtRange (hfind ▸ hlt16), hfind]
  exact ⟨hob, p, rfl, hp⟩

/-- **Inline fields (scalars, structs, fixed arrays, union types).** Whatever else is added to the table, in whatever
order, the reader's vtable lookup finds a non-zero entry for the field and the bytes at that entry are exactly the bytes
given (zero padded to the field size); the field's address is aligned to the field's alignment. -/
theorem C03_inline_field (s : BS) (fs : List (Nat × FieldVal)) (vtRef : Int) (h : FrameOK fs)
    (id size align : Nat) (bytes : List Nat) (hf : (id, FieldVal.inl size align bytes) ∈ fs) (hb : bytes.length ≤ size) :
    let t := layoutTable fs
    let e := vtLookup (vtableBytes t) id
    e ≠ 0 ∧ slice (tableImage s t vtRef) e size = bytes ++ zeros (size - bytes.length) ∧
      ((createTable s t vtRef).2 + e) % (align : Int) = 0 := by
  obtain ⟨hob, p, he, hp⟩ := entry_of_field fs h _ hf
  have hal := field_addr_aligned s _ vtRef p _ hob hp (h.fieldAlign_dvd _ hf)
  simp only [he]
  refine ⟨Nat.succ_ne_zero _, ?_, hal⟩
  rw [show size = fieldSize (.inl size align bytes) from rfl, tableImage_field s _ vtRef p _ hob hp]
  exact List.take_of_length_le (by simp only [List.length_append, zeros_length, Nat.add_sub_of_le hb, Nat.le_refl])

/-- **Absent fields.** A field id that was not added reads as absent (entry 0 — the reader returns the schema default
and `is_present` false), whether the id lies inside or beyond the emitted vtable. -/
theorem C03_absent_field (fs : List (Nat × FieldVal)) (h : FrameOK fs) (id : Nat) (hid : id ∉ fs.map Prod.fst) :
    vtLookup (vtableBytes (layoutTable fs)) id = 0 := by
  have h0 : vtEntryOf (layoutTable fs) id = 0 := vtEntryOf_absent _ id (by rw [(layout_ids fs).1]; exact hid)
  by_cases hlt : id < (layoutTable fs).idEnd
  · rw [vtLookup_vtableBytes _ id hlt h.vtRange (by omega), h0]
  · exact vtLookup_beyond _ id (Nat.le_of_not_lt hlt) h.vtRange

/-- **Offset fields (strings, vectors, tables, union values).** The reader finds the field, and the stored 32-bit value is
the distance from the field's own address to the referenced object: `field address + value = reference`, for every object
created earlier (so the offset points forward and is non-zero). -/
theorem C03_offset_field (s : BS) (fs : List (Nat × FieldVal)) (vtRef : Int) (h : FrameOK fs)
    (id : Nat) (r : Int) (hf : (id, FieldVal.off r) ∈ fs)
    (hr : s.emitStart ≤ r) (hr2 : r - (createTable s (layoutTable fs) vtRef).2 < 4294967296) :
    let e := vtLookup (vtableBytes (layoutTable fs)) id
    let fieldAddr := (createTable s (layoutTable fs) vtRef).2 + e
    e ≠ 0 ∧ fieldAddr % 4 = 0 ∧ 0 < rd32 (tableImage s (layoutTable fs) vtRef) e ∧
      fieldAddr + rd32 (tableImage s (layoutTable fs) vtRef) e = r := by
  obtain ⟨hob, p, he, hp⟩ := entry_of_field fs h _ hf
  have hsl := tableImage_field s _ vtRef p _ hob hp
  have hal := field_addr_aligned s _ vtRef p _ hob hp (h.fieldAlign_dvd _ hf)
  have hbnd := tableBase_le s (layoutTable fs)
  have hlen : p + 4 ≤ (layoutTable fs).data.length := hp.2.1
  simp only [he]
  rw [createTable_ref _ _ _ hob] at hr2 hal ⊢
  have e : r - tableBase s (layoutTable fs) - (p : Int) - 4 = r - (tableBase s (layoutTable fs) + (p + 4 : Nat)) := by
    rw [Int.sub_sub, Int.sub_sub]
    rfl
  simp only [fieldBytes, patchVal, fieldSize, e] at hsl
  -- the field lies below everything emitted before the table, hence strictly below `r`
  exact ⟨Nat.succ_ne_zero _, hal, rd32_offset _ _ _ _ hsl (by omega) (sub_natAdd_lt hr2)⟩

/-- **Strings.** The emitted object is: 32-bit length, the bytes (embedded NULs included), a zero terminator inside the
object; it starts 4-aligned. -/
theorem C03_string (s : BS) (d : List Nat) (hl : d.length < 4294967296) :
    let img := (createString s d).1.front
    rd32 img 0 = d.length ∧ slice img 4 d.length = d ∧ (img.drop (4 + d.length)).head? = some 0 ∧ (createString s d).2 % 4 = 0 := by
  have h := rd32_head_body d.length d (zeros (frontPad s (d.length + 1) 4 + 1) ++ s.front) hl
  rw [← List.append_assoc, ← emitFront_front, ← createString_eq] at h
  exact ⟨h.1, h.2, createString_terminated s d, createString_aligned s d⟩

/-- **Vectors.** 32-bit element count, then the elements exactly as given, first element aligned to max(align, 4). -/
theorem C03_vector (s : BS) (d : List Nat) (count align : Nat) (hc : count < 4294967296) :
    let img := (createVector s d count align).1.front
    rd32 img 0 = count ∧ slice img 4 d.length = d ∧ ((createVector s d count align).2 + 4) % ((max align 4 : Nat) : Int) = 0 := by
  have h := rd32_head_body count d (zeros (frontPad s d.length (max align 4)) ++ (setMinAlign s (max align 4)).front) hc
  rw [← List.append_assoc, ← emitFront_front, ← createVector_eq] at h
  exact ⟨h.1, h.2, createVector_aligned s d count align⟩

/-! Non-vacuity: a concrete frame (fields added out of id order, an 8-aligned scalar after a byte) meets `FrameOK`. -/
def exFields : List (Nat × FieldVal) := [(2, .inl 1 1 [7]), (0, .off (-8)), (5, .inl 8 8 [1, 2, 3, 4, 5, 6, 7, 8])]
example : FrameOK exFields := by
  refine ⟨by decide, ?_, by decide, by decide⟩
  intro f hf size align bytes he
  simp only [exFields, List.mem_cons, List.mem_nil_iff, or_false] at hf
  rcases hf with rfl | rfl | rfl
  · cases he; exact ⟨0, rfl⟩
  · cases he
  · cases he; exact ⟨3, rfl⟩
example : vtLookup (vtableBytes (layoutTable exFields)) 5 = 12 ∧ vtLookup (vtableBytes (layoutTable exFields)) 1 = 0 := by decide

end Flatcc.Props.C03
