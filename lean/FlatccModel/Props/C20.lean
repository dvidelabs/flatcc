import FlatccModel.FindProofs
/-!
# C20 — a sorted vector of the binary schema is searchable

The reflection vectors are looked up with the generated binary search (`Find.lean`; `find_some`, `find_none` of FindProofs are the C16 statements about it); the theorem below is
what `sorted` buys: every stored key is found, at its first position. That the numbers the binary schema carries (struct
offsets, sizes, alignments, field ids) are those of the layout model is `Props/C07.lean` together with tools/props/c20.py,
which compares the compiler's binary schema with that model for every generated schema.
-/
namespace Flatcc.Props.C20
open Flatcc.Sort

/-- **A sorted key vector is searchable.** `cmp i` is the comparison of entry `i` with the searched key (negative:
entry below key). If the comparisons are monotone (the vector is sorted by the key order) and some entry matches, the
generated binary search returns an index, that index matches, lies at or below the known match, and no lower index matches. -/
theorem C20_sorted_lookup_finds (cmp : Nat → Int) (len : Nat) (hm : Mono cmp len) (k : Nat) (hk : k < len) (hz : cmp k = 0) :
    ∃ i, find cmp len = some i ∧ cmp i = 0 ∧ i ≤ k ∧ ∀ j, j < i → cmp j ≠ 0 := by
  cases hf : find cmp len with
  | none =>
    have := find_none cmp len hm hf k hk
    exact absurd hz this
  | some i =>
    have h := find_some cmp len hm i hf
    exact ⟨i, rfl, h.2.1, Nat.le_of_not_lt fun hki => h.2.2 k hki hz, h.2.2⟩

end Flatcc.Props.C20
