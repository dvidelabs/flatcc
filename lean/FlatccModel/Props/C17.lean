import FlatccModel.Ident
import FlatccModel.VerifierLeaves
/-!
# C17 — identifiers and type hashes are computed, stored and checked consistently

`hashFromString` (`flatbuffers_type_hash_from_string`) is defined in `Verifier.lean`, the rest of flatcc_identifier.h in
`Ident.lean`; the lemmas about both are here.
-/
namespace Flatcc.Ident
open Flatcc.Verifier

theorem fnvAppend_append (h : Nat) (a b : List Nat) : fnvAppend h (a ++ b) = fnvAppend (fnvAppend h a) b := by
  unfold fnvAppend; rw [List.foldl_append]

theorem scope_fold (scope : List (List Nat)) (name : List Nat) (h : Nat) :
    fnvAppend (scope.foldl (fun h comp => fnvAppend (fnvAppend h comp) [46]) h) name = fnvAppend h (dotted scope name) := by
  induction scope generalizing h with
  | nil => rfl
  | cons comp rest ih =>
    simp only [List.foldl, dotted, List.foldr]
    rw [ih]
    unfold dotted
    rw [fnvAppend_append, fnvAppend_append]

/-- the hash the compiler generates for a type equals the runtime hash of its dot-qualified name
(FNV-1a-32, zero mapped to the hash of the empty string), for every scope and name -/
theorem C17_compile_eq_runtime (scope : List (List Nat)) (name : List Nat) :
    compileTypeHash scope name = typeHashFromName (dotted scope name) := by
  unfold compileTypeHash typeHashFromName
  simp only [scope_fold]

/-- `fnvAppend` is one FNV-1a-32 step per byte (xor, multiply by the prime, mod 2^32) -/
theorem C17_fnv_step (h b : Nat) (rest : List Nat) :
    fnvAppend h (b :: rest) = fnvAppend (((h ^^^ (b % 256)) * 16777619) % 4294967296) rest := rfl

/-- the runtime type hash is never 0, the value that stands for "no identifier" -/
theorem C17_hash_nonzero (name : List Nat) : typeHashFromName name ≠ 0 := by
  unfold typeHashFromName
  simp only []
  split
  · unfold fnvOffset; decide
  · assumption

/-- the type identifier is the hash in little-endian bytes, and converts back to it -/
theorem C17_identifier_roundtrip (h : Nat) (hh : h < 4294967296) :
    hashFromIdentifier (identifierFromHash h) = h := by
  have a : h % 65536 = h % 256 + 256 * (h / 256 % 256) := @Nat.mod_mul 256 256 h
  have b : h % 16777216 = h % 65536 + 65536 * (h / 65536 % 256) := @Nat.mod_mul 65536 256 h
  have c : h % 4294967296 = h % 16777216 + 16777216 * (h / 16777216 % 256) := @Nat.mod_mul 16777216 256 h
  unfold hashFromIdentifier identifierFromHash
  simp only []
  rw [← a, ← b, ← c]
  exact Nat.mod_eq_of_lt hh

/-- file identifiers whose first three bytes are non-zero: the string conversion gives the same word as the 4 bytes -/
theorem C17_string_eq_identifier (b0 b1 b2 b3 : Nat) (h0 : b0 ≠ 0) (h1 : b1 ≠ 0) (h2 : b2 ≠ 0) (rest : List Nat) :
    hashFromString ([b0, b1, b2, b3] ++ rest) = hashFromIdentifier [b0, b1, b2, b3] := by
  unfold hashFromString hashFromIdentifier
  simp [h0, h1, h2]

/-- root access accepts iff the requested identifier is null, converts to zero, or equals the stored one -/
theorem C17_has_identifier_iff (stored : Nat) (fid : Option (List Nat)) :
    hasIdentifier stored fid = true ↔
      fid = none ∨ (∃ s, fid = some s ∧ (hashFromString (s ++ [0, 0, 0, 0]) = 0 ∨ stored = hashFromString (s ++ [0, 0, 0, 0]))) := by
  unfold hasIdentifier
  cases fid with
  | none => simp
  | some s => simp

/-- `flatbuffers_has_type_hash` accepts iff the requested hash is 0 or equals the stored one -/
theorem C17_has_type_hash_iff (stored thash : Nat) :
    hasTypeHash stored thash = true ↔ thash = 0 ∨ stored = thash := by
  unfold hasTypeHash; simp

/-- the plain header check: accepted ⇒ the address and size conditions hold and the requested identifier is zero or equals the
word at offset 4 -/
theorem C17_header_accept_sound (c : Ctx) (idHash : Nat) (h : verifyHeader c idHash = .ok ()) :
    c.A % 4 = 0 ∧ c.n ≤ 4294967287 ∧ 8 ≤ c.n ∧ (idHash = 0 ∨ r32 c 4 = idHash) :=
  (verifyHeader_ok_iff c idHash).mp h

/-- conversely a buffer meeting these conditions is accepted by the plain header check -/
theorem C17_header_accept_complete (c : Ctx) (idHash : Nat)
    (h1 : c.A % 4 = 0) (h2 : c.n ≤ 4294967287) (h3 : 8 ≤ c.n) (h4 : idHash = 0 ∨ r32 c 4 = idHash) :
    verifyHeader c idHash = .ok () :=
  (verifyHeader_ok_iff c idHash).mpr ⟨h1, h2, h3, h4⟩

/-- the size-prefixed header check: accepted ⇒ the size to verify with is the prefix + 4, inside the given size, and the requested
identifier is zero or equals the word at offset 8 -/
theorem C17_header_with_size_sound (c : Ctx) (idHash n' : Nat)
    (h : verifyHeaderWithSize c idHash = .ok n') :
    n' = r32 c 0 + 4 ∧ n' ≤ c.n ∧ (idHash = 0 ∨ r32 c 8 = idHash) :=
  (verifyHeaderWithSize_ok h).2.2

/-- `Ident.storedIdentifier`, a one-line model of what `flatcc_builder_create_buffer` stores (tied to the builder by execution; the
builder model has its own `idOut` in `Builder.lean` and does not reference it), keeps the identifier iff it is non-null and not all zero -/
theorem C17_stored_iff (fid : Option (List Nat)) :
    storedIdentifier fid ≠ none ↔ ∃ s, fid = some s ∧ hashFromIdentifier s ≠ 0 := by
  unfold storedIdentifier
  cases fid with
  | none => simp
  | some s => by_cases h : hashFromIdentifier s = 0 <;> simp [h]

/-- a test vector of `flatbuffers_type_hash_from_name` -/
example : typeHashFromName [77, 111, 110, 115, 116, 101, 114] = 0x611f5e31 := by decide   -- "Monster"

end Flatcc.Ident
