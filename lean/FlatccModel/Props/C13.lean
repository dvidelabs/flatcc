import FlatccModel.BuilderTable
import FlatccModel.AllocProofs
/-!
# C13 — failures are reported, never turned into corruption (model-level theorems)

The builder reports a failed emit or allocation by returning the null reference 0. The theorems: a successful emit
never returns 0 (so 0 is unambiguous), a refused emit leaves the stream and the model's cursors untouched, a successful
allocation satisfies the request (a refused one is not modelled); see `C14_reset_is_init` in Props/C14 (reset gives the initial
state whatever a failed build left behind) for the other half of the model side of "reset and rebuild gives the fresh bytes".
-/
namespace Flatcc.Props.C13
open Flatcc.Builder Flatcc.Alloc

/-- `emit_front` with an emitter that may refuse: on refusal nothing changes and 0 is returned
(`if (B->emit(...)) return 0;` comes before `B->emit_start = ref`) -/
def emitFrontF (s : BS) (bytes : List Nat) (accept : Bool) : BS × Int := if accept then emitFront s bytes else (s, 0)
/-- `emit_back` with an emitter that may refuse (C's `emit_back` has set `emit_end` before it asks the emitter, so after a
refusal that cursor has moved; the model keeps it) -/
def emitBackF (s : BS) (bytes : List Nat) (accept : Bool) : BS × Int := if accept then emitBack s bytes else (s, 0)

/-- a successful front emit returns a negative reference — never the failure value -/
theorem C13_front_ref_nonzero (s : BS) (bytes : List Nat) (h : 0 < bytes.length) : (emitFront s bytes).2 < 0 := by
  rw [emitFront_ref]; unfold BS.emitStart; omega

/-- a successful back emit (vtables, end padding) returns a positive reference -/
theorem C13_back_ref_nonzero (s : BS) (bytes : List Nat) : 0 < (emitBack s bytes).2 := by
  rw [emitBack_ref]
  unfold BS.emitEnd
  omega

/-- a refused emit is reported and changes nothing in the model (the first two conjuncts are the `else` branches of the two
definitions above; in C `emit_back` has moved `emit_end` by then); an accepted one is not mistaken for a failure -/
theorem C13_emit_refused (s : BS) (bytes : List Nat) :
    emitFrontF s bytes false = (s, 0) ∧ emitBackF s bytes false = (s, 0) ∧
    (0 < bytes.length → (emitFrontF s bytes true).2 ≠ 0) ∧ (emitBackF s bytes true).2 ≠ 0 := by
  refine ⟨rfl, rfl, fun h => ?_, ?_⟩
  · exact Int.ne_of_lt (C13_front_ref_nonzero s bytes h)
  · exact (Int.ne_of_lt (C13_back_ref_nonzero s bytes)).symm

/-- `create_string`, `create_vector` and `create_table` are each exactly one emit of a non-empty image: the result is
that emit's result (so in C, where the emit may refuse, the refusal is the function's return value: an inference from the C
text; `emitFront` itself cannot refuse) -/
theorem C13_create_is_one_emit (s : BS) (d : List Nat) (count align : Nat) :
    (∃ img, 0 < img.length ∧ createString s d = emitFront s img) ∧
    (∃ img, 0 < img.length ∧ createVector s d count align = emitFront (setMinAlign s (max align 4)) img) ∧
    (∀ t vtRef, ∃ img, 0 < img.length ∧ createTable s t vtRef = emitFront (setMinAlign s (max t.align 4)) img) :=
  ⟨⟨_, List.length_pos_iff.mpr (le32_append_ne _ _ _), createString_eq s d⟩,
   ⟨_, List.length_pos_iff.mpr (le32_append_ne _ _ _), createVector_eq s d count align⟩,
   fun t vtRef => ⟨_, List.length_pos_iff.mpr (le32_append_ne _ _ _), createTable_eq s t vtRef⟩⟩

/-- a successful `default_alloc` returns at least the requested size (a failed one returns -1 before touching `b` and is
not modelled) -/
theorem C13_alloc_success_satisfies (len request hint : Nat) (h : 1 ≤ request) : request ≤ defaultAlloc len request hint :=
  (defaultAlloc_bounds len request hint _ h (Nat.le_max_left _ _) (Nat.le_max_right _ _)).1

end Flatcc.Props.C13
