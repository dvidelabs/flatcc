import FlatccModel.JsonProofs
import FlatccModel.Base64Proofs
/-!
# C05 — JSON print then parse preserves content (model-level theorems)

Strings: for EVERY byte string (embedded NUL, quotes, backslashes, control characters, invalid UTF-8) the parser's
string scanner applied to the printer's output returns exactly the original bytes and stops right behind the closing
quote. Numbers: the print/scan exactness theorems of C19 (`Props/C19.lean`) are the scalar part of this property.
The table/union/vector level is decided by execution on generated code (tools/props/c05.py).

How the string model meets the C code: the driver has no operation that runs `printString` or `parseString` alone.
`printString` runs as `printCharArray` (the `chararrp` operation, against `print_char_array`, which has a loop of its own
beside `print_string`); `decodeEscape` runs inside `charArrayG` (`chararr`, against `flatcc_json_parser_char_array`);
`parseBody` meets C only through the theorem that the char array parser answers as `parseString` says (`C04_char_array_spec`).
-/
namespace Flatcc.Props.C05
open Flatcc.Json

/-- **String round trip**, whatever follows the string in the text: the scanner stops right behind the closing quote. -/
theorem C05_string_roundtrip (s rest : List Nat) : parseString (printString s ++ rest) = some (s, rest) :=
  parseString_printString s rest

/-- the printed string contains no raw control character: every byte below 0x20 is written as an escape sequence of
printable characters (strict JSON requires it) -/
theorem C05_no_raw_control : ∀ c, c < 32 → ∀ b ∈ printByte c, 32 ≤ b := by decide

/-- non-vacuity: a string with NUL, quote, backslash, DEL and a raw high byte -/
example : parseString (printString [0, 34, 92, 127, 200, 10] ++ [44]) = some ([0, 34, 92, 127, 200, 10], [44]) := by decide

open Flatcc.Base64

/-- **Base64 fields round-trip.** For EVERY byte vector, either alphabet and ANY sequence of flush points in the printer,
the parser applied to the printed field (followed by any continuation) returns exactly the bytes and stops behind the
closing quote. -/
theorem C05_base64_roundtrip (rooms : List Nat) (s rest : List Nat) (urlsafe : Bool) (hs : ∀ b ∈ s, b < 256) :
    parseBase64Field (printBase64Field rooms s urlsafe ++ rest) urlsafe = some (s, rest) :=
  parse_print_field rooms s rest urlsafe hs

/-- the printed base64 text needs no escaping: never a quote, a backslash or a control character (strict JSON) -/
theorem C05_base64_text_is_plain (s : List Nat) (mode : Nat) (hs : ∀ b ∈ s, b < 256) :
    ∀ b ∈ encode s mode, b ≠ 34 ∧ b ≠ 92 ∧ 32 ≤ b ∧ b < 127 :=
  encode_no_escape s mode hs

/-- the four printer modes against the parser's two decode modes, with the exact sizes the C code computes:
encoded length = `base64_encoded_size`, the decode is exact, and `base64_decoded_size` (what the parser reserves) suffices -/
theorem C05_base64_all_modes (s : List Nat) (mode : Nat) (hs : ∀ b ∈ s, b < 256)
    (hmode : mode = 0 ∨ mode = 1 ∨ mode = 128 ∨ mode = 129) :
    (encode s mode).length = encodedSize s.length mode
    ∧ decode (encode s mode) (mode % 2) = ⟨0, s, (encode s mode).length⟩
    ∧ decodeLim (decodedSize (encode s mode).length) (encode s mode) (mode % 2) = ⟨0, s, (encode s mode).length⟩
    ∧ s.length ≤ decodedSize (encode s mode).length
    ∧ (∀ b ∈ encode s mode, b ≠ 34 ∧ b ≠ 92 ∧ 32 ≤ b ∧ b < 127) := by
  have ⟨hm, hd⟩ : baseMode mode ≤ 1 ∧ baseMode (mode % 2) = baseMode mode := by
    rcases hmode with rfl | rfl | rfl | rfl <;> decide
  exact ⟨encode_length s mode hm, decode_encode s mode _ hs hm hd,
    decodeLim_encode s mode _ _ hs hm hd (Or.inr (decodedSize_bound s mode hm)),
    decodedSize_bound s mode hm, encode_no_escape s mode hs⟩

/-- the printer's chunks are whole 3-byte groups and never exceed the data: with `k = ((pflush - p) + 3) & ~3` output characters
left before the flush point (`room = pflush - p`), the chunk is the `n = k * 3 / 4` source bytes `printRooms` takes -/
theorem C05_base64_chunks (room dataLen mode : Nat) (h : (room + 3) / 4 * 4 < encodedSize dataLen mode) :
    (room + 3) / 4 * 4 * 3 / 4 % 3 = 0 ∧ (room + 3) / 4 * 4 * 3 / 4 ≤ dataLen :=
  print_chunk_in_bounds room dataLen mode h

example : parseBase64Field (printBase64Field [5, 9] [0, 255, 34, 92, 10, 7, 200] false ++ [44]) false = some ([0, 255, 34, 92, 10, 7, 200], [44]) := by decide

end Flatcc.Props.C05
