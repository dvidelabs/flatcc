import FlatccModel.SchemaNumProofs
/-!
# C08 — schema numeric literals are accepted iff representable and mean what they say (integer part)
-/
namespace Flatcc.SchemaNum
open Flatcc.Num

/-- no type's range reaches below `INT64_MIN` (not used below: the hypothesis `hlo` of `acceptLit_iff` is about the literal's
value and is discharged on the spot) -/
theorem range_lo_ge (st : STy) : -9223372036854775808 ≤ (range st).1 := by cases st <;> decide

/-- unsigned decimal literals: accepted iff representable, and then with exactly their value — every
integer type, every digit string of any length (no wrap for 20+ digits, no truncation) -/
theorem C08_dec_unsigned_iff (st : STy) (hst : st ≠ .bool) (ds : List Nat) (hd : AllDigits ds) (hne : ds ≠ []) (v : Int) :
    acceptLit false st (.dec false ds) = some v ↔ Representable st (litValue (.dec false ds)) ∧ v = litValue (.dec false ds) := by
  have hr := readLit_dec false ds hd hne
  by_cases h : decval ds < 18446744073709551616
  · rw [if_pos h] at hr
    exact acceptLit_iff st hst hr (normInt_uint _) (Int.neg_natCast_le_natCast _ _) v
  · -- 2^64 and above: refused by the scanner, and beyond every type
    rw [if_neg h] at hr
    have hhi : (range st).2 ≤ 18446744073709551615 := by cases st <;> decide
    simp only [acceptLit, hr, litValue, Representable, Bool.false_eq_true, if_false]
    constructor
    · nofun
    · intro h'
      have : (decval ds : Int) ≤ 18446744073709551615 := Int.le_trans h'.1.2 hhi
      exact absurd (Nat.lt_succ_of_le (Int.ofNat_le.mp this)) h

/-- negative decimal literals with magnitude up to 2^63 (see `C08_sign_wrap_counterexample` for the rest) -/
theorem C08_dec_negative_partial (st : STy) (hst : st ≠ .bool) (ds : List Nat) (hd : AllDigits ds) (hne : ds ≠ [])
    (hmag : decval ds ≤ 9223372036854775808) (v : Int) :
    acceptLit false st (.dec true ds) = some v ↔ Representable st (litValue (.dec true ds)) ∧ v = litValue (.dec true ds) := by
  have hr := readLit_dec true ds hd hne
  rw [if_pos (Nat.lt_of_le_of_lt hmag (by decide)), if_pos rfl, toI64_neg _ hmag] at hr
  exact acceptLit_iff st hst hr rfl (Int.neg_le_neg (Int.ofNat_le.mpr hmag)) v

/-- KNOWN FINDING (sign wrap): a negative literal of magnitude above 2^63 changes sign silently —
`-9223372036854775809` is accepted for a `long` field as `+9223372036854775807` -/
theorem C08_sign_wrap_counterexample :
    acceptLit false .long (.dec true [57,50,50,51,51,55,50,48,51,54,56,53,52,55,55,53,56,48,57]) = some 9223372036854775807 := by
  decide

/-- hex literals (1..16 digits): accepted iff representable, with exactly their value (`hv` follows from `hlen` and the proof
does not use it) -/
theorem C08_hex_unsigned_iff (st : STy) (hst : st ≠ .bool) (ds : List Nat) (hne : ds ≠ []) (hlen : ds.length ≤ 16)
    (hv : hexVal ds < 18446744073709551616) (v : Int) :
    acceptLit false st (.hex false ds) = some v ↔ Representable st (litValue (.hex false ds)) ∧ v = litValue (.hex false ds) := by
  have hr : readLit (.hex false ds) = .uint (hexVal ds) := by
    simp [readLit, hne, Nat.not_lt.mpr hlen]
  exact acceptLit_iff st hst hr (normInt_uint _) (by omega) v

/-- enum auto-numbering: a member without initializer gets the previous value + 1, and the result
is representable in the underlying type — otherwise the enum is rejected (incl. ulong/long at their maximum). `hpr`: the
previous value is an unsigned value or a negative signed one; the first member (`prev = none`) and `bool` are outside
the statement. -/
theorem C08_enum_auto (st : STy) (hst : st ≠ .bool) (pv : Val) (p : Int) (hp : valInt pv = some p)
    (hpr : (∃ u, pv = .uint u ∧ u < 18446744073709551616) ∨ (∃ i, pv = .int i ∧ i < 0 ∧ -9223372036854775808 ≤ i))
    (rest : List (Option Val)) (i : Int) (r : List Int)
    (h : enumValues st (some pv) (none :: rest) = some (i :: r)) :
    i = p + 1 ∧ Representable st i := by
  obtain ⟨v, hv, hci⟩ := enumValues_auto_head h
  rcases hpr with ⟨u, rfl, _⟩ | ⟨j, rfl, _, hj⟩
  · obtain rfl := Option.some.inj hp
    rw [autoIdx_uint hv] at hci
    obtain ⟨hr, rfl⟩ := (coerce_uint st hst (u + 1) i).mp hci
    exact ⟨rfl, hr⟩
  · obtain rfl := Option.some.inj hp
    rw [autoIdx_int hv] at hci
    obtain ⟨hr, rfl⟩ := (coerce_int st hst (j + 1) (Int.le_add_one hj) i).mp hci
    exact ⟨rfl, hr⟩

example : acceptLit false .ubyte (.dec false [50, 53, 53]) = some 255 := by decide
example : acceptLit false .ubyte (.dec false [50, 53, 54]) = none := by decide
example : acceptLit false .int (.dec false [49,56,52,52,54,55,52,52,48,55,51,55,48,57,53,53,49,54,49,53]) = none := by decide
example : enumValues .ulong none [some (.uint 18446744073709551615), none] = none := by decide

/-- **bit_flags.** In an accepted `bit_flags` enum every member's value is exactly `2 ^ p` for a position `p` below the bit
width of the underlying type, and that value is representable in the type (so the sign bit of a signed type is refused).
The statement does not tie `p` to the member's declared position; `enumFlagValues_head` has the step. -/
theorem C08_bitflags (st : STy) (hst : st ≠ .bool) : ∀ (ms : List (Option Val)) (prev : Option Val) (vs : List Int),
    enumFlagValues st prev ms = some vs →
    ∀ x ∈ vs, ∃ p, p < bitsOf st ∧ x = (2 ^ p : Nat) ∧ Representable st x := by
  intro ms
  induction ms with
  | nil => intro prev vs h x hx; cases h; cases hx
  | cons m rest ih =>
    intro prev vs h
    obtain ⟨v, i, r, rfl, hlt, hci, hrest⟩ := enumFlagValues_head h
    obtain ⟨hr, rfl⟩ := (coerce_uint st hst (2 ^ valU v) i).mp hci
    intro x hx
    rcases List.mem_cons.mp hx with rfl | hx
    · exact ⟨valU v, hlt, rfl, hr⟩
    · exact ih (some v) r hrest x hx

/-- the position just past the width is refused, explicitly or by auto-numbering (ulong, long, ubyte, byte shown) -/
example : enumFlagValues .ulong none [some (.uint 0), some (.uint 64)] = none := by decide
example : enumFlagValues .ulong none [some (.uint 63), none] = none := by decide
example : enumFlagValues .ulong none [some (.uint 63)] = some [9223372036854775808] := by decide
example : enumFlagValues .long none [some (.uint 63)] = none := by decide
example : enumFlagValues .ubyte none [none, none, some (.uint 7)] = some [1, 2, 128] := by decide
example : enumFlagValues .byte none [some (.uint 7)] = none := by decide

/-- `is_valid_align` accepts exactly the powers of two 1..256, for every 64-bit (indeed every) value -/
theorem C08_valid_align (a : Nat) : isValidAlign a = true ↔ a ∈ alignValues := by
  by_cases h : a ≤ 256
  · exact validAlign_small a h
  · exact ⟨fun hv => absurd (isValidAlign_le hv) h, fun hm => absurd ((by decide : ∀ a ∈ alignValues, a ≤ 256) a hm) h⟩

/-- `force_align: <literal>` is accepted iff the literal is an unsigned integer whose VALUE is a permitted alignment not below the
natural alignment of the members, and the struct is then aligned to exactly that value — no narrowing of the literal before the test -/
theorem C08_force_align (l : Lit) (natural a : Nat) :
    forceAlign l natural = some a ↔ readLit l = .uint a ∧ a ∈ alignValues ∧ natural ≤ a := by
  unfold forceAlign
  cases h : readLit l with
  | uint u =>
    simp only [Val.uint.injEq, ← C08_valid_align, Option.ite_none_right_eq_some, Option.some.injEq, Bool.and_eq_true,
      decide_eq_true_eq]
    constructor
    · rintro ⟨⟨h1, h2⟩, rfl⟩; exact ⟨rfl, h1, h2⟩
    · rintro ⟨rfl, h1, h2⟩; exact ⟨⟨h1, h2⟩, rfl⟩
  | _ => simp

/-- values whose low 16 bits are a permitted alignment are still refused -/
example : forceAlign (.dec false [54, 53, 53, 53, 50]) 4 = none := by decide      -- 65552 = 2^16 + 16
example : forceAlign (.dec false [49, 54]) 4 = some 16 := by decide
example : forceAlign (.dec false [50]) 4 = none := by decide                      -- below the natural alignment
example : forceAlign (.dec false [53, 49, 50]) 4 = none := by decide              -- 512 > FLATCC_FORCE_ALIGN_MAX

end Flatcc.SchemaNum
