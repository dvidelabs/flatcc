import FlatccModel.VerifierDepth
/-!
# C01 — the verifier finishes within the documented nesting limit

The model's table verifier carries two bounds: `ttl`, the C code's remaining nesting budget (`FLATCC_VERIFIER_MAX_LEVELS` at the
root, handed down — one budget for the whole verification, nested buffers included), and `fuel`, the structural recursion bound
of the Lean definition. `.error .fuel` is the answer "the recursion went deeper than `fuel`". `table_nf` (VerifierDepth): whenever `ttl ≤ fuel`
(and `1 ≤ fuel`) that answer never occurs — for every schema, buffer and position the recursion of an accepted *or rejected* verification is cut
by the `ttl` test of the C code before it is deeper than `ttl`. The root functions start with `ttl = 100`, `fuel = 128`;
`maxLevels` is the literal 100 in `Verifier.lean` (the regenerated `Consts.verifierMaxLevels` is not consulted: the value is tied by
the run of nesting chains around 100).
-/
namespace Flatcc.Verifier

/-- **Nesting limit.** The plain root verifier (fuel 128, budget `maxLevels` = `FLATCC_VERIFIER_MAX_LEVELS`) never answers "out of
fuel", for every schema, byte string and identifier request, accepted or rejected: the model's cut-off is unreachable. That the C
code's `ttl` test ends the recursion within the budget is `table_nf`, of which this is the case at the root. -/
theorem C01_nesting_limit (S : Schema) (c : Ctx) (idHash t : Nat) : NF (verifyTableAsRoot S c idHash t) := by
  unfold verifyTableAsRoot
  exact nf_bind nf_verifyHeader fun _ _ =>
    nf_bind nf_rd32 fun _ _ =>
    table_nf S 128 _ _ _ _ _ (by omega) (by unfold maxLevels; omega)

/-- the same for size-prefixed buffers -/
theorem C01_nesting_limit_with_size (S : Schema) (c : Ctx) (idHash t : Nat) : NF (verifyTableAsRootWithSize S c idHash t) := by
  unfold verifyTableAsRootWithSize
  exact nf_bind nf_verifyHeaderWithSize fun _ _ =>
    nf_bind nf_rd32 fun _ _ =>
    table_nf S 128 _ _ _ _ _ (by omega) (by unfold maxLevels; omega)

/-- a table is accepted only at a budget `ttl ≥ 2`: `verify_table` first tests `ttl - 1 > 0` -/
theorem C01_budget_spent (S : Schema) (c : Ctx) (fuel base offset : Nat) (ttl : Int) (t : Nat)
    (h : verifyTable S c (fuel + 1) base offset ttl t = .ok ()) : 2 ≤ ttl := by
  rw [verifyTable_succ] at h
  obtain ⟨_, hg, _⟩ := bind_ok h
  have : 1 < ttl := by simpa using guard_ok hg
  -- on `Int`, `1 < ttl` is `1 + 1 ≤ ttl` by definition
  exact this

/-- with budget 1 no table is accepted -/
example (S : Schema) (c : Ctx) (fuel base offset t : Nat) : verifyTable S c (fuel + 1) base offset 1 t ≠ .ok () := by
  intro h; have := C01_budget_spent S c fuel base offset 1 t h; omega

end Flatcc.Verifier
