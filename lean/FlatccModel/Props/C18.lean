import FlatccModel.RefmapProofs
/-!
# C18 — the reference map is a map (refmap.c)

`Inv hash s` is the representation invariant of the open-addressing table (size, at least one
empty slot, no duplicate keys, every occupied slot reachable from its home slot without crossing
an empty slot).  Theorems hold for an arbitrary hash function and table size. For histories: `run hash ops` is the map after
the calls `ops` (oldest first) from `Map.init`; `spec` reads a history newest call first, hence `ops.reverse`; `Good` = not in a
nested resize, and no table yet or `GoodT` (`Inv` and the count is the number of occupied slots). All three: RefmapProofs.
-/
namespace Flatcc.Refmap

/-- a stored address is found, with the reference stored in its slot -/
theorem C18_find_present (hash : Nat → Nat) (s : RM) (I : Inv hash s) (t : Nat) (ht : t < s.buckets)
    (hocc : srcAt s t ≠ 0) : find hash s (srcAt s t) = refAt s t :=
  find_present hash s I t ht hocc

/-- an address no slot holds yields not-found (0) -/
theorem C18_find_absent (hash : Nat → Nat) (s : RM) (I : Inv hash s) (src : Nat)
    (habs : ∀ t, t < s.buckets → srcAt s t ≠ src) : find hash s src = 0 :=
  find_absent hash s I src habs

/-- inserting a new address keeps the invariant, makes it findable with the given reference, and
leaves every other stored (address, reference) pair in place (partial: only a key not yet stored; the update in place is
`insertCore_spec` / `C18_map`) -/
theorem C18_insert_new_partial (hash : Nat → Nat) (s : RM) (I : Inv hash s) (src : Nat) (ref : Int) (hsrc : src ≠ 0)
    (habs : ∀ t, t < s.buckets → srcAt s t ≠ src)
    (hroom : ∃ e1 e2, e1 < s.buckets ∧ e2 < s.buckets ∧ e1 ≠ e2 ∧ srcAt s e1 = 0 ∧ srcAt s e2 = 0) :
    Inv hash (insertCore hash s src ref) ∧
    find hash (insertCore hash s src ref) src = ref ∧
    (∀ t, t < s.buckets → srcAt s t ≠ 0 →
        srcAt (insertCore hash s src ref) t = srcAt s t ∧ refAt (insertCore hash s src ref) t = refAt s t) :=
  insert_new hash s I src ref hsrc habs hroom

/-- the model computes: after two inserts under the real hash, `find` of the first key returns its reference -/
example : (step murmur (step murmur (step murmur Map.init (.ins 1000 7)).1 (.ins 2000 9)).1 (.fnd 1000)).2 = 7 := by decide
/-- the freshly allocated 8-bucket table -/
def empty8 : RM := { buckets := 8, table := Array.replicate 8 (0, 0) }

/-- the invariant is satisfiable: the fresh table has it, for every hash function -/
theorem C18_inv_satisfiable (hash : Nat → Nat) : Inv hash empty8 := Inv_replicate hash 8 (by decide)

/-- **C18**: for every hash function and every history, lookup in the model is the abstract map. -/
theorem C18_map (hash : Nat → Nat) (ops : List Op) (k : Nat) :
    find' hash (run hash ops) k = spec ops.reverse k :=
  (run_spec hash ops).2 k

/-- `flatcc_refmap_insert` returns the reference it was given. -/
theorem C18_insert_returns_ref (hash : Nat → Nat) (m : Map) (s : Nat) (r : Int) : (insert hash m s r).2 = r := by
  unfold insert; split <;> rfl

/-- the rehash loop inside `resize` never itself exceeds the load factor -/
theorem C18_no_nested_resize (hash : Nat → Nat) (ops : List Op) : (run hash ops).nested = false :=
  (run_spec hash ops).1.1

/-- every reachable state satisfies the invariant -/
theorem C18_reachable_good (hash : Nat → Nat) (ops : List Op) : Good hash (run hash ops) :=
  (run_spec hash ops).1

/-- a reachable map with a table has an empty slot (what ends the probe loops of `find`/`insert`) -/
theorem C18_empty_slot (hash : Nat → Nat) (ops : List Op) :
    (run hash ops).rm.buckets = 0 ∨ ∃ e, e < (run hash ops).rm.buckets ∧ srcAt (run hash ops).rm e = 0 := by
  rcases (C18_reachable_good hash ops).2 with ⟨h, _, _⟩ | hT
  · exact Or.inl h
  · exact Or.inr hT.inv.empty

/-- every value returned by a public call in a history is the one `spec` predicts:
`find` returns the abstract content, `insert` returns its argument, the others return 0 -/
theorem C18_step_result (hash : Nat → Nat) (ops : List Op) (op : Op) :
    (step hash (run hash ops) op).2 =
      match op with
      | .ins _ r => r
      | .fnd s => spec ops.reverse s
      | _ => 0 := by
  cases op with
  | ins s r => exact C18_insert_returns_ref hash _ s r
  | fnd s => exact C18_map hash ops s
  | rsz n => rfl
  | rst => rfl
  | clr => rfl

/-! ## non-vacuity: a concrete history (two growths, update in place, explicit resize, reset, clear) -/

def demoOps : List Op :=
  [.ins 8 1, .ins 16 2, .ins 24 3, .ins 32 4, .ins 40 5, .ins 48 6, .ins 16 (-7), .fnd 16,
   .ins 0 9, .ins 56 8, .ins 64 9, .ins 72 10, .ins 80 11, .ins 88 12, .ins 96 13, .rsz 100,
   .ins 24 33, .rsz 0, .rst, .ins 8 (-1), .ins 5 55, .clr, .ins 7 77]

/-- a 20-call history for a deliberately bad hash (all keys collide into 3 home slots) -/
def demoOps2 : List Op :=
  [.ins 8 1, .ins 16 2, .ins 24 3, .ins 32 4, .ins 40 5, .ins 48 6, .ins 16 (-7), .fnd 16,
   .ins 0 9, .ins 56 8, .rsz 20, .ins 24 33, .rsz 0, .fnd 3, .rst, .ins 8 (-1), .ins 5 55, .fnd 5, .clr, .ins 7 77]

set_option maxRecDepth 10000 in
example : [0, 5, 7, 8, 16, 24, 56, 9].all (fun k =>
    find' (fun x => x % 3) (run (fun x => x % 3) (demoOps2.take 14)) k == spec (demoOps2.take 14).reverse k) = true := by
  rw [run_eq_foldl_stepL]; decide +kernel

set_option maxRecDepth 10000 in
example : [0, 5, 7, 8, 16, 24, 56, 9].all (fun k =>
    find' (fun x => x % 3) (run (fun x => x % 3) demoOps2) k == spec demoOps2.reverse k) = true := by
  rw [run_eq_foldl_stepL]; decide +kernel

set_option maxRecDepth 10000 in
example : spec (demoOps2.take 14).reverse 16 = -7 ∧ spec (demoOps2.take 14).reverse 24 = 33 ∧
    spec (demoOps2.take 14).reverse 0 = 0 ∧ spec demoOps2.reverse 7 = 77 ∧ spec demoOps2.reverse 8 = 0 := by decide +kernel

/-- the real hash: 18 calls (two growths 8 → 16 → 64, explicit resize to 256 and back to 32), 12 live keys;
evaluated by the kernel (`decide +kernel`, no extra axioms) because of the 64-bit multiplications -/
example : (List.range 100).all (fun k =>
    find' murmur (run murmur (demoOps.take 18)) k == spec (demoOps.take 18).reverse k) = true
    ∧ (run murmur (demoOps.take 18)).count = 12 ∧ (run murmur (demoOps.take 18)).rm.buckets = 32
    ∧ (run murmur (demoOps.take 17)).rm.buckets = 256 := by
  rw [run_eq_foldl_stepL, run_eq_foldl_stepL]; decide +kernel

end Flatcc.Refmap
