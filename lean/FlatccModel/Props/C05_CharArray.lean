import FlatccModel.CharArrayProofs
/-! ## fixed-length char arrays: `print_char_array` (trailing NULs stripped, then escaped like a string) vs
`flatcc_json_parser_char_array` -/
namespace Flatcc.Props.C05
open Flatcc.CharArray

/-- **Char arrays round-trip** for every content (embedded NULs, quotes, control characters, high bytes), every continuation
and both settings of `skip_array_overflow`; with `reject_array_underflow` those the printer leaves whole do, and the second
part says which these are: the arrays that do not end in NUL (the others are refused: `charArray_roundtrip_rejects`). -/
theorem C05_char_array_roundtrip (N : Nat) (f : Flags) (a rest : List Nat) (ha : a.length = N) :
    (f.rejectUnderflow = false ∨ stripZeros a = a → charArray N f (printCharArray a ++ rest) = .ok (a, rest)) ∧
    (stripZeros a = a ↔ a.getLast? ≠ some 0) :=
  ⟨charArray_roundtrip N f a rest ha, stripZeros_eq_self_iff a⟩

example : charArray 6 ⟨false, false⟩ (printCharArray [97, 34, 0, 10, 92, 31] ++ [44]) = .ok ([97, 34, 0, 10, 92, 31], [44]) := by decide

end Flatcc.Props.C05
