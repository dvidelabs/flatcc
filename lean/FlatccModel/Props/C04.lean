import FlatccModel.JsonProofs
import FlatccModel.JsonScanProofs
/-!
# C04 — the JSON parser on any text (model-level theorems for the string scanner)

`parseBody` models `flatcc_json_parser_string_part` + `string_escape` in the loop of `build_string`; the theorems hold for
EVERY input byte list.
-/
namespace Flatcc.Props.C04
open Flatcc.Json

/-- an accepted escape is a non-empty prefix of its input (`Json.decodeEscape_suffix`) -/
theorem decodeEscape_suffix (r : List Nat) (bytes r' : List Nat) (h : decodeEscape r = some (bytes, r')) :
    ∃ pre, pre ≠ [] ∧ r = pre ++ r' :=
  Json.decodeEscape_suffix r bytes r' h

/-- **The string scanner consumes a prefix of its input**: what it returns as remaining input is a proper suffix of what it
was given. -/
theorem C04_string_consumes_prefix (fuel : Nat) (input acc : List Nat) (out rest : List Nat)
    (h : parseBody fuel input acc = some (out, rest)) : ∃ pre, pre ≠ [] ∧ input = pre ++ rest :=
  parseBody_suffix fuel input acc out rest h

/-- **Totality.** More fuel than `length + 1` changes nothing: the loop ends because every round consumes input. -/
theorem C04_string_fuel_enough (input acc : List Nat) (extra : Nat) :
    parseBody (input.length + 1 + extra) input acc = parseBody (input.length + 1) input acc :=
  parseBody_fuel _ input acc (by omega)
end Flatcc.Props.C04

/-! the runtime's generic scanners (`JsonScan.lean`): every dereference of the C functions is a guarded read in the model (`.oob`
when outside the given bytes; the nesting stack of `flatcc_json_parser_generic_json` likewise) -/
namespace Flatcc.Props.C04
open Flatcc.JsonScan

/-- **No scanner reads outside the given bytes** (incl. the 8/16-byte fast paths of `space_ext`, `\u` escapes and surrogate
pairs at the very end of the input, numbers ending after `-`, `.`, `e`), nor outside the nesting stack. -/
theorem C04_scanners_read_in_bounds (inp : Array Nat) (i : Nat) (c : Ctx) (hi : i ≤ inp.size) :
    space inp i c ≠ .error .oob ∧
    spaceExt inp i c ≠ .error .oob ∧
    number inp i c ≠ .error .oob ∧
    skipConstant inp i c ≠ .error .oob ∧
    unmatchedSymbol inp i c ≠ .error .oob ∧
    generic inp i c ≠ .error .oob ∧
    symbolStart inp i c ≠ .error .oob ∧
    symbolEnd inp i c ≠ .error .oob ∧
    constantStart inp i c ≠ .error .oob ∧
    stringStart inp i c ≠ .error .oob ∧
    stringEnd inp i c ≠ .error .oob ∧
    stringPart inp i c ≠ .error .oob ∧
    stringEscape inp i c ≠ .error .oob ∧
    objectStart inp i c ≠ .error .oob ∧
    objectEnd inp i c ≠ .error .oob ∧
    arrayStart inp i c ≠ .error .oob ∧
    arrayEnd inp i c ≠ .error .oob :=
  ⟨space_scans.no_oob c hi, spaceExt_scans.no_oob c hi, number_scans.no_oob c hi, skipConstant_scans.no_oob c hi,
   unmatchedSymbol_scans.no_oob c hi, generic_scans.no_oob c hi, symbolStart_scans.no_oob c hi, symbolEnd_scans.no_oob c hi,
   constantStart_scans.no_oob c hi, stringStart_scans.no_oob c hi, stringEnd_scans.no_oob c hi, stringPart_scans.no_oob c hi,
   stringEscape_scans.no_oob c hi, (groupStart_scans _ _ _).no_oob c hi, (groupEnd_scans _ _).no_oob c hi,
   (groupStart_scans _ _ _).no_oob c hi, (groupEnd_scans _ _).no_oob c hi⟩

/-- **Positions and error locations stay inside the input**: the returned position `p` satisfies `i ≤ p ≤ end`, a newly
recorded error location lies in `[i, end]`, and an earlier error is never overwritten (first error wins). Thirteen scanners; for the four
delimiter scanners, whose result is a triple, the same is `objectStart_pos_in_range` … `arrayEnd_pos_in_range` (JsonScanProofs). -/
theorem C04_scanners_positions_in_range (inp : Array Nat) (i : Nat) (c : Ctx) (hi : i ≤ inp.size) :
    (∀ p c', space inp i c = .ok (p, c') → InRange inp.size i c p c') ∧
    (∀ p c', spaceExt inp i c = .ok (p, c') → InRange inp.size i c p c') ∧
    (∀ p c', number inp i c = .ok (p, c') → InRange inp.size i c p c') ∧
    (∀ p c', skipConstant inp i c = .ok (p, c') → InRange inp.size i c p c') ∧
    (∀ p c', unmatchedSymbol inp i c = .ok (p, c') → InRange inp.size i c p c') ∧
    (∀ p c', generic inp i c = .ok (p, c') → InRange inp.size i c p c') ∧
    (∀ p c', symbolStart inp i c = .ok (p, c') → InRange inp.size i c p c') ∧
    (∀ p c', symbolEnd inp i c = .ok (p, c') → InRange inp.size i c p c') ∧
    (∀ p c', constantStart inp i c = .ok (p, c') → InRange inp.size i c p c') ∧
    (∀ p c', stringStart inp i c = .ok (p, c') → InRange inp.size i c p c') ∧
    (∀ p c', stringEnd inp i c = .ok (p, c') → InRange inp.size i c p c') ∧
    (∀ p c', stringPart inp i c = .ok (p, c') → InRange inp.size i c p c') ∧
    (∀ p c', stringEscape inp i c = .ok (p, c') → InRange inp.size i c p c') :=
  ⟨fun _ _ => space_scans.inRange hi, fun _ _ => spaceExt_scans.inRange hi, fun _ _ => number_scans.inRange hi,
   fun _ _ => skipConstant_scans.inRange hi, fun _ _ => unmatchedSymbol_scans.inRange hi, fun _ _ => generic_scans.inRange hi,
   fun _ _ => symbolStart_scans.inRange hi, fun _ _ => symbolEnd_scans.inRange hi, fun _ _ => constantStart_scans.inRange hi,
   fun _ _ => stringStart_scans.inRange hi, fun _ _ => stringEnd_scans.inRange hi, fun _ _ => stringPart_scans.inRange hi,
   fun _ _ => stringEscape_scans.inRange hi⟩

/-- **The skipper of unknown values terminates** on every input (the fuel `end - pos + 1` of the model is never exhausted),
never nests deeper than the C array `stack[FLATCC_JSON_PARSE_GENERIC_MAX_NEST]` (the constant is re-read from the headers on
every run) and every state it passes through has its position inside the input. -/
theorem C04_generic_skipper_total (inp : Array Nat) (i : Nat) (c : Ctx) (hi : i ≤ inp.size) :
    (∃ r, generic inp i c = .ok r) ∧
    (∀ extra, genericF (inp.size - i + 1 + extra) inp i c = generic inp i c) ∧
    (∀ s, Reach (gStep inp) ⟨true, i, [], c⟩ s → s.stk.length ≤ MAX_NEST ∧ i ≤ s.i ∧ s.i ≤ inp.size) :=
  ⟨generic_scans.terminates c hi, generic_fuel_enough inp i c hi,
   generic_reach inp i c hi⟩

/-- **Termination** of five more scanners that loop (the generic skipper is `C04_generic_skipper_total`): a result exists, the fuel is not
what ends them. `spaceExt`, `stringPart`, `constantStart` loop too and are not listed here; `Scans.terminates` gives the same
for them. -/
theorem C04_scanner_loops_terminate (inp : Array Nat) (i : Nat) (c : Ctx) (hi : i ≤ inp.size) :
    (∃ r, space inp i c = .ok r) ∧ (∃ r, number inp i c = .ok r) ∧ (∃ r, skipConstant inp i c = .ok r) ∧
    (∃ r, unmatchedSymbol inp i c = .ok r) ∧ (∃ r, symbolEnd inp i c = .ok r) :=
  ⟨space_scans.terminates c hi, number_scans.terminates c hi, skipConstant_scans.terminates c hi,
   unmatchedSymbol_scans.terminates c hi, symbolEnd_scans.terminates c hi⟩

end Flatcc.Props.C04
