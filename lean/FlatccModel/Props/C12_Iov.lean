import FlatccModel.BuilderIovProofs
import FlatccModel.BuilderTable
/-!
# The pieces (`iov` entries) of every emit call the builder makes

For every `create_*` function of `Builder.lean`: the pieces listed in `BuilderIov.lean` concatenate to exactly the bytes the
model emits, none is empty, and there are between 1 and `FLATCC_IOV_COUNT_MAX` of them (the lists have at most 4 parts).
-/
namespace Flatcc.Builder

/-- `create_string`: length field, content, terminator with padding -/
theorem C12_iov_string (s : BS) (d : List Nat) :
    IovOK (stringIov s d) (le32 d.length ++ d ++ zeros (frontPad s (d.length + 1) 4 + 1)) ∧
    (createString s d).1.front = (stringIov s d).flatten ++ s.front := by
  have h := iovOK_le32 d.length d (zeros (frontPad s (d.length + 1) 4 + 1))
  exact ⟨h, by rw [createString_eq]; exact h.front_eq s s rfl⟩

/-- `create_vector`: count field, elements, padding -/
theorem C12_iov_vector (s : BS) (d : List Nat) (count align : Nat) :
    IovOK (vectorIov s d count align) (le32 count ++ d ++ zeros (frontPad s d.length (max align 4))) ∧
    (createVector s d count align).1.front = (vectorIov s d count align).flatten ++ s.front := by
  have h := iovOK_le32 count d (zeros (frontPad s d.length (max align 4)))
  exact ⟨h, by rw [createVector_eq]; exact h.front_eq _ s (setMinAlign_front s _)⟩

/-- `create_struct`: the struct, padding -/
theorem C12_iov_struct (s : BS) (d : List Nat) (align : Nat) (hd : d ≠ []) :
    IovOK (structIov s d align) (d ++ zeros (frontPad s d.length align)) ∧
    (createStruct s d align).1.front = (structIov s d align).flatten ++ s.front := by
  have h := iovOK_two d (zeros (frontPad s d.length align)) hd
  exact ⟨h, by rw [createStruct_eq]; exact h.front_eq _ s (setMinAlign_front s _)⟩

/-- `create_table`: vtable offset field, patched data, padding -/
theorem C12_iov_table (s : BS) (t : TableLayout) (vtRef : Int) :
    IovOK (tableIov s t vtRef) (tableImage s t vtRef) ∧
    (createTable s t vtRef).1.front = (tableIov s t vtRef).flatten ++ s.front := by
  have h := iovOK_le32 (u32 (tableBase s t - (vtRef - 1))) (patchAll (tableBase s t) t.data t.offsets)
    (zeros (frontPad s t.data.length (max t.align 4)))
  -- `h` is about the pieces and the image written out: `tableIov` and `tableImage` unfold to them
  exact ⟨h, by rw [createTable_eq]; exact h.front_eq _ s (setMinAlign_front s _)⟩

/-- `create_vtable`: the vtable alone at the back, or the vtable and its padding in front -/
theorem C12_iov_vtable (s : BS) (vt : List Nat) (hv : vt ≠ []) :
    ∃ bytes, IovOK (vtableIov s vt) bytes ∧
      ((s.nestId = 0 ∧ s.clustering) → (createVtable s vt).1.back = s.back ++ bytes) ∧
      (¬ (s.nestId = 0 ∧ s.clustering) → (createVtable s vt).1.front = bytes ++ s.front) := by
  by_cases hc : s.nestId = 0 ∧ s.clustering
  · refine ⟨vt, ?_, fun _ => by rw [createVtable_back s vt hc, emitBack_back], fun h => absurd hc h⟩
    rw [vtableIov, if_pos hc]
    exact iovOK_one vt hv
  · refine ⟨vt ++ zeros (frontPad s vt.length 2), ?_, fun h => absurd h hc, fun _ => by rw [createVtable_front s vt hc]; rfl⟩
    rw [vtableIov, if_neg hc]
    exact iovOK_two vt _ hv

/-- `_create_offset_vector_direct`: count field, the offset elements, padding -/
theorem C12_iov_offset_vector (s : BS) (refs : List Int) :
    IovOK (offsetVectorIov s refs) (le32 refs.length ++ (Flatcc.Props.C03.ovElems (Flatcc.Props.C03.ovBase s refs) refs).flatten ++ zeros (frontPad s (4 * refs.length) 4)) ∧
    (createOffsetVector s refs).1.front = (offsetVectorIov s refs).flatten ++ s.front := by
  have h := iovOK_le32 refs.length (Flatcc.Props.C03.ovElems (Flatcc.Props.C03.ovBase s refs) refs).flatten
    (zeros (frontPad s (4 * refs.length) 4))
  exact ⟨h, by rw [createOffsetVector_image]; exact h.front_eq _ s (setMinAlign_front s _)⟩

/-- the pieces of the header sum to `bufHeader`, the image `createBuffer` emits by definition -/
theorem C12_iov_buffer_header (s : BS) (ident : List Nat) (rootRef : Int) (align : Nat) (nested : Bool) :
    IovOK (bufHeaderIov s ident rootRef align nested) (bufHeader s ident rootRef align nested) := by
  simp only [bufHeaderIov, bufHeader]
  exact iovOK_of _ _ (by simp only [List.flatten_cons, List.flatten_nil, List.append_nil, List.append_assoc])
    ⟨le32 _, List.mem_cons_of_mem _ (List.mem_cons_self ..), List.cons_ne_nil _ _⟩
    (show 4 ≤ Flatcc.Consts.iovCountMax by decide)

/-- `align_buffer_end`: one piece of padding at the back, only when there is something to pad. About `zeros n` for a free
`n ≠ 0`; that `bufPrep` emits it with `n = backPad …` holds by unfolding and is not part of the statement. -/
theorem C12_iov_end_pad (n : Nat) (h : n ≠ 0) : IovOK (nz [zeros n]) (zeros n) :=
  iovOK_one (zeros n) (fun e => h (by rw [← zeros_length n, e, List.length_nil]))

/-- `embed_buffer`: length field, the bytes, padding. About the byte expression with a free `pad`; that `embedBuffer` emits
it with its own padding (`embedBuffer_eq`) is not part of the statement. -/
theorem C12_iov_embed (s : BS) (data : List Nat) (pad : Nat) :
    IovOK (embedIov s data pad) (le32 (data.length + pad) ++ data ++ zeros pad) :=
  iovOK_le32 _ _ _

end Flatcc.Builder
