import FlatccModel.VerifierSound
/-!
# C01 — verifier acceptance implies in-bounds, aligned reads

`S` is the schema as the runtime sees it (the call lists of the generated verifiers, `WF S M` = what
the schema compiler guarantees about them: ids < 32766, alignments are powers of two dividing `M`,
vector max counts that cannot overflow, union ids ≥ 1), `c` ANY byte string of any size with any
content at ANY address (`c.A`).  No placement of the buffer is assumed: the header check rejects an
address that is not a multiple of 4, and every wider alignment is checked by the verifier on the
absolute address.  `Safe c a` = access `a` (offset, length, alignment) lies inside the `c.n` bytes and
is aligned at its absolute address.  `rootAcc`/`tableAcc` list every read the generated reader API
makes for the type, to any depth (`fuel`), including every vector element, every string up to and
including its terminator, every union member and union vector element, and — through
`<field>_as_root` — everything inside nested buffers (nested table roots and nested struct roots),
which the verifier checks as buffers of their own at the address where they lie.

Not covered here (see DESIGN.md): the JSON printer's walk, the verifier's own reads
(checked by the correspondence run only); and the access lists leave out the 4 identifier bytes at offset 4 that
`__flatbuffers_read_root` compares when it is given an identifier, and the read of the size prefix itself. The fourth entry point,
`verifyStructAsRootWithSize`, is modelled and run against C but has no theorem here.
-/
namespace Flatcc.Verifier

/-- Main theorem: an accepted table root is safe to read through every accessor, for every buffer at every address. -/
theorem C01_table_root {c : Ctx} {M : Nat} (hm4 : 4 ∣ M) (hmp : M ∣ 4294967296) (S : Schema) (w : WF S M) (idHash t : Nat)
    (h : verifyTableAsRoot S c idHash t = .ok ()) :
    ∀ fuel a, a ∈ rootAcc S c fuel t → Safe c a := by
  unfold verifyTableAsRoot at h
  obtain ⟨_, hh, h⟩ := bind_ok h
  have P := verifyHeader_placed hm4 hmp hh
  exact rootAcc_safe P S (table_sound P S w 128) h

/-- The form applied to generated code: the only hypothesis about the schema is the Boolean `wfB`, which every check run evaluates on the
call lists extracted from the `*_verifier.h` files the current compiler generates (tools/genverifier.py). -/
theorem C01_generated_verifier {c : Ctx} {M : Nat} (S : Schema) (hw : wfB S M = true) (idHash t : Nat)
    (h : verifyTableAsRoot S c idHash t = .ok ()) :
    ∀ fuel a, a ∈ rootAcc S c fuel t → Safe c a := by
  obtain ⟨h4, hp, w⟩ := wfB_sound hw
  exact C01_table_root h4 hp S w idHash t h

/-- The size-prefixed variants: the root offset is read at 4, and every access stays inside some
`n' ≤ c.n` (the proof takes the prefix-declared size, which the header check bounds; the statement does not say which). -/
theorem C01_table_root_with_size {c : Ctx} {M : Nat} (hm4 : 4 ∣ M) (hmp : M ∣ 4294967296) (S : Schema) (w : WF S M) (idHash t : Nat)
    (h : verifyTableAsRootWithSize S c idHash t = .ok ()) :
    ∃ n', n' ≤ c.n ∧ ∀ fuel a, a ∈ (⟨4, 4, 4⟩ :: tableAcc S { c with n := n' } fuel (4 + r32 c 4) t) →
      Safe { c with n := n' } a := by
  unfold verifyTableAsRootWithSize at h
  obtain ⟨n', hh, h⟩ := bind_ok h
  obtain ⟨a4, hn, _, hle, _⟩ := verifyHeaderWithSize_ok hh
  have P' : Placed { c with n := n' } M := ⟨hm4, hmp, a4, Nat.le_trans hle hn⟩
  exact ⟨n', hle, slotTable_safe P' S (table_sound P' S w 128) (by decide) (by decide) (rd32_bind_ok.mp h).2⟩

/-- struct roots: the struct lies inside the buffer and is aligned at its address -/
theorem C01_struct_root {c : Ctx} {M : Nat} (hm4 : 4 ∣ M) (hmp : M ∣ 4294967296) (idHash size align : Nat)
    (hal : align ∣ M) (hsize : size < 4294967296)
    (h : verifyStructAsRoot c idHash size align = .ok ()) :
    Safe c ⟨0, 4, 4⟩ ∧ Safe c ⟨r32 c 0, size, align⟩ :=
  structRoot_safe hm4 hmp hal hsize h

/-- an access that is safe in the nested buffer `sub c s len` is, shifted by `s`, safe in the enclosing buffer and lies inside the nested
bytes. With `C01_table_root` on `sub c s len` this covers what a nested root accessor reads. -/
theorem C01_nested_root_inside {c : Ctx} {s len : Nat} (hr : s + len ≤ c.n) {a : Access} (h : Safe (sub c s len) a) :
    Safe c (shiftAcc s a) ∧ s ≤ (shiftAcc s a).addr ∧ (shiftAcc s a).addr + (shiftAcc s a).len ≤ s + len := by
  refine ⟨safe_shift hr h, ?_, ?_⟩
  · exact Nat.le_add_right s a.addr
  · show s + a.addr + a.len ≤ s + len
    rw [Nat.add_assoc]
    exact Nat.add_le_add_left h.1 s

/-- a remark on the shape of the reader model: every access it lists is a read `⟨addr, len, align⟩`; there is no write constructor -/
theorem C01_readonly (S : Schema) (c : Ctx) (fuel t : Nat) :
    ∀ a ∈ rootAcc S c fuel t, ∃ addr len align, a = ⟨addr, len, align⟩ := by
  intro a _; exact ⟨a.addr, a.len, a.align, rfl⟩

/-- the hypotheses are satisfiable: a schema with every kind of call, nested roots included -/
example : WF { tables := [[⟨0, false, .scalar 4 4⟩, ⟨1, true, .string⟩, ⟨2, false, .vector 8 8 536870911⟩,
                           ⟨3, false, .stringVector⟩, ⟨4, false, .table 0⟩, ⟨5, false, .tableVector 0⟩,
                           ⟨7, false, .union 0⟩, ⟨9, false, .unionVector 0⟩, ⟨10, false, .nestedTable 0 1⟩,
                           ⟨11, false, .nestedStruct 32 16⟩]],
               unions := [[(1, .table 0), (2, .struct 16 16), (3, .string)]] } 16 :=
  (wfB_sound (by decide)).2.2

end Flatcc.Verifier
