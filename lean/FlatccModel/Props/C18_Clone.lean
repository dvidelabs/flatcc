import FlatccModel.CloneProofs
/-!
# C18 — clone / pick: the copy reads equal to the source; with a reference map shared objects are created once

Model: `Clone.lean` (the recursion of the generated `<T>_clone` / `<T>_vec_clone` / string, vector, struct clone with
`__flatbuffers_memoize_begin/_end`). Source: any partial map address ↦ (inline content, referenced addresses).
-/
namespace Flatcc.Clone

/-- **content.** Whatever was cloned into the builder before (any state that satisfies the invariant — in particular a fresh
one), with or without a reference map: a successful clone returns a reference `r` that is *bisimilar* to the source address
`a` — there is a relation containing (a, r) in which related objects carry the same inline content and have pairwise related
referents, in order. Every accessor path (field, element, union member, to any depth) therefore reads the same from the copy
as from the source. Objects created earlier are not touched (`Ext`). -/
theorem C18_clone_reads_equal (useMap : Bool) (src : Src) (fuel a r : Nat) (st st' : St)
    (hi : Inv src st) (h : clone useMap src fuel a st = some (r, st')) :
    (∃ R : Nat → Nat → Prop, Sim src st'.dst R ∧ R a r) ∧ Inv src st' ∧ Ext st st' := by
  obtain ⟨i, x, m⟩ := clone_spec useMap src fuel a st r st' hi h
  exact ⟨⟨_, i.1, m⟩, i, x⟩

/-- the same for a clone into a fresh builder -/
theorem C18_clone_fresh (useMap : Bool) (src : Src) (fuel a r : Nat) (st' : St)
    (h : clone useMap src fuel a init = some (r, st')) :
    ∃ R : Nat → Nat → Prop, Sim src st'.dst R ∧ R a r :=
  (C18_clone_reads_equal useMap src fuel a r init st' (inv_init src) h).1

/-- **sharing.** With the reference map, on a source whose offsets point forward (every FlatBuffer), a clone keeps (hence so
does any sequence of clones into one builder from the initial state, `invS_init`): the map holds exactly the (source address,
reference) pairs of the objects created, no source address twice, and the number of objects created equals the number of distinct source addresses cloned — an object reachable by
several paths is emitted once. -/
theorem C18_clone_shares (src : Src) (hf : Fwd src) (fuel a r : Nat) (st st' : St)
    (hi : InvS st) (h : clone true src fuel a st = some (r, st')) :
    st'.memo = st'.log ∧ (st'.log.map Prod.fst).Nodup ∧ st'.dst.length = st'.log.length :=
  (clone_share src hf fuel a st r st' hi h).1

/-- the reference returned for an address that was cloned before is the one stored then -/
theorem C18_clone_again_same_ref (src : Src) (fuel a r : Nat) (st : St) (h : lookup st.memo a = some r) :
    clone true src (fuel + 1) a st = some (r, st) := by
  simp [clone, h]

/-- without a reference map nothing is looked up or stored -/
theorem C18_clone_without_map (src : Src) (fuel a r : Nat) (st st' : St)
    (h : clone false src fuel a st = some (r, st')) : st'.memo = st.memo :=
  clone_nomap_memo src fuel a st r st' h

/-- **termination.** On a source whose offsets point forward and whose referents all exist below `bound` (what the verifier
establishes for an accepted buffer of `bound` bytes) the clone of any object succeeds with fuel `bound - a`; in particular
it terminates, whatever the sharing. -/
theorem C18_clone_terminates (useMap : Bool) (src : Src) (bound : Nat) (hf : Fwd src) (hc : Closed src bound)
    (a : Nat) (st : St) (ha : a < bound) (hs : (src a).isSome) :
    ∃ r st', clone useMap src (bound - a) a st = some (r, st') :=
  clone_total useMap src bound hf hc (bound - a) a st ha hs (Nat.sub_le_iff_le_add'.mp (Nat.le_refl (bound - a)))

/-! Non-vacuity: a table (address 4) referring twice to one string (address 20) and to a vector (12) that refers to the same
string. With the map three objects are created, without it the string is created three times. -/
def demoSrc : Src := fun a =>
  if a = 4 then some ⟨[1], [20, 12, 20]⟩ else if a = 12 then some ⟨[2], [20]⟩ else if a = 20 then some ⟨[3], []⟩ else none

example : (clone true demoSrc 5 4 init).map (fun p => (p.1, p.2.dst.length, p.2.memo.length)) = some (2, 3, 3) := by decide
example : (clone false demoSrc 5 4 init).map (fun p => (p.1, p.2.dst.length, p.2.memo.length)) = some (4, 5, 0) := by decide
example : Fwd demoSrc := by
  intro a o h k hk
  unfold demoSrc at h
  by_cases h4 : a = 4
  · rw [if_pos h4] at h; cases h; exact h4 ▸ (by decide : ∀ k ∈ [20, 12, 20], 4 < k) k hk
  by_cases h12 : a = 12
  · rw [if_neg h4, if_pos h12] at h; cases h; exact h12 ▸ (by decide : ∀ k ∈ [20], 12 < k) k hk
  by_cases h20 : a = 20
  · rw [if_neg h4, if_neg h12, if_pos h20] at h; cases h; cases hk
  · rw [if_neg h4, if_neg h12, if_neg h20] at h; cases h

end Flatcc.Clone
