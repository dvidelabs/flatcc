/-!
# Which tables and unions get a recursive sorter (`mark_sortable` in codegen_c_sorter.c)

The generator marks a table or union `sortable` when one of its (non-deprecated) members carries `sorted`, or when a member
refers (single or vector) to a table or union that is marked. It iterates passes over all types **in a fixed order (the symbol
table's visit order in C, the list order here), updating in place**, and stops when a pass reports the same number of sortable types as the pass before.
-/
namespace Flatcc.Sortable

structure Ty where
  direct : Bool          -- a non-deprecated member carries `sorted`
  refs : List Nat        -- tables / unions (indices in declaration order) that non-deprecated members refer to
  deriving Repr

abbrev Marks := List Bool

def get (m : Marks) (i : Nat) : Bool := (m[i]?).getD false

/-- what `mark_member_sortable` returns for type `i` given the marks so far -/
def cond (ts : List Ty) (m : Marks) (i : Nat) : Bool :=
  get m i || match ts[i]? with
    | none => false
    | some t => t.direct || t.refs.any (fun r => get m r)

/-- `mark_sortable_symbol` on type `i`: its flag is set in place (`export_index |= …`), never cleared -/
def stepAt (ts : List Ty) (m : Marks) (i : Nat) : Marks := m.set i (cond ts m i)

/-- one pass over all types in declaration order, in place -/
def pass (ts : List Ty) (m : Marks) : Marks := (List.range ts.length).foldl (stepAt ts) m

/-- the pass's `count`: every type reports its own mark right after its update, and later steps of the pass do not touch it -/
def count (m : Marks) : Nat := m.countP (fun b => b)

/-- `while (old_count != count)`; `none` = the fuel ran out -/
def loop (ts : List Ty) : Nat → Marks → Option Nat → Option Marks
  | 0, _, _ => none
  | f + 1, m, old =>
    let m' := pass ts m
    if old = some (count m') then some m' else loop ts f m' (some (count m'))

/-- `int old_count = -1, count = 0; while (old_count != count) { old_count = count; count = <pass> }`: the first pass always runs and
    is compared with 0, the count of the initial (all clear) marks -/
def markSortable (ts : List Ty) : Option Marks := loop ts (ts.length + 2) (List.replicate ts.length false) (some 0)

/-- a `sorted` vector is reachable from type `i` -/
inductive Reach (ts : List Ty) : Nat → Prop
  | direct {i : Nat} {t : Ty} : ts[i]? = some t → t.direct = true → Reach ts i
  | step {i r : Nat} {t : Ty} : ts[i]? = some t → r ∈ t.refs → Reach ts r → Reach ts i

/-- example: a chain declared leaf-last needs several passes, a chain declared leaf-first needs one; both give the same set -/
def chainDown : List Ty := [⟨false, [1]⟩, ⟨false, [2]⟩, ⟨false, [3]⟩, ⟨true, []⟩, ⟨false, []⟩]
def chainUp : List Ty := [⟨false, []⟩, ⟨true, []⟩, ⟨false, [1]⟩, ⟨false, [2]⟩, ⟨false, [3]⟩]
example : markSortable chainDown = some [true, true, true, true, false] := by decide
example : markSortable chainUp = some [false, true, true, true, true] := by decide

/-- `j` can be reached from `i` through non-deprecated table / union members (what a chain of generated sorters walks) -/
inductive Path (ts : List Ty) : Nat → Nat → Prop
  | refl (i : Nat) : Path ts i i
  | step {i r j : Nat} {t : Ty} : ts[i]? = some t → r ∈ t.refs → Path ts r j → Path ts i j

end Flatcc.Sortable
