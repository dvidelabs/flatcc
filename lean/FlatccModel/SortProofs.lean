import FlatccModel.Sort
/-! The generated heap sort permutes its input and, for a strict weak order, sorts it: `siftDown` restores a heap that is
broken at one position, and each extraction extends a tail that dominates everything before it. -/
namespace Flatcc.Sort

variable {α : Type}

theorem StrictWeak.asymm {lt : α → α → Bool} (O : StrictWeak lt) {x y : α} (h : lt x y = true) : lt y x = false :=
  Bool.eq_false_iff.2 fun hyx => Bool.false_ne_true ((O.irrefl x).symm.trans (O.trans x y x h hyx))

theorem swapIfInBounds_perm (a : Array α) (i j : Nat) : (a.swapIfInBounds i j).Perm a := by
  rw [Array.swapIfInBounds_def]
  split
  · split
    · exact Array.swap_perm _ _
    · exact Array.Perm.refl _
  · exact Array.Perm.refl _

variable [Inhabited α]

theorem get_swap (a : Array α) (i j k : Nat) (hi : i < a.size) (hj : j < a.size) :
    (a.swapIfInBounds i j)[k]! = if k = i then a[j]! else if k = j then a[i]! else a[k]! := by
  rw [Array.swapIfInBounds_def, dif_pos hi, dif_pos hj]
  simp only [getElem!_def, Array.getElem?_swap, getElem?_pos a i hi, getElem?_pos a j hj]
  by_cases h1 : k = i
  · subst h1
    by_cases h2 : j = k
    · subst h2; simp
    · simp [h2]
  · by_cases h2 : k = j
    · subst h2; simp [h1]
    · simp [h1, h2, Ne.symm h1, Ne.symm h2]

theorem siftDown_perm (lt : α → α → Bool) (a : Array α) (r e f : Nat) : (siftDown lt a r e f).Perm a := by
  fun_induction siftDown lt a r e f with
  | case2 _ _ _ _ _ ih => exact ih.trans (swapIfInBounds_perm _ _ _)
  | case1 | case3 | case4 => exact Array.Perm.refl _

theorem siftDown_size (lt : α → α → Bool) (a : Array α) (r e f : Nat) : (siftDown lt a r e f).size = a.size :=
  (siftDown_perm lt a r e f).size_eq

/-- `c ≠ p` because position 0 is its own "child" `2 * 0` -/
abbrev IsChild (p c : Nat) : Prop := (c = 2 * p ∨ c = 2 * p + 1) ∧ c ≠ p

theorem IsChild.lt {p c : Nat} (h : IsChild p c) : p < c := by omega

theorem IsChild.two_mul_le {p c : Nat} (h : IsChild p c) : 2 * p ≤ c := by omega

theorem child_parent_unique {p q c : Nat} (h1 : IsChild p c) (h2 : IsChild q c) : p = q := by
  have := h1.1
  have := h2.1
  clear h1 h2  -- omega splits on each `≠`
  omega

/-- positions from `lo` on dominate their children up to `hi` (`lt x y = false`: `x` is not below `y`) -/
def Heap (lt : α → α → Bool) (a : Array α) (lo hi : Nat) : Prop :=
  ∀ p c, lo ≤ p → c ≤ hi → IsChild p c → lt a[p]! a[c]! = false

/-- a heap on `[lo, hi]` but for the children of `ex`, which may be larger than it -/
def HeapEx (lt : α → α → Bool) (a : Array α) (lo hi ex : Nat) : Prop :=
  ∀ p c, lo ≤ p → c ≤ hi → IsChild p c → p ≠ ex → lt a[p]! a[c]! = false

theorem HeapEx.heap {lt : α → α → Bool} {a : Array α} {lo hi r : Nat} (H : HeapEx lt a lo hi r)
    (hr : ∀ c, c ≤ hi → IsChild r c → lt a[r]! a[c]! = false) : Heap lt a lo hi := by
  intro p c hp hc hpc
  by_cases hpr : p = r
  · subst hpr; exact hr c hc hpc
  · exact H p c hp hc hpc hpr

theorem Heap.heapEx {lt : α → α → Bool} {a : Array α} {lo hi : Nat} (H : Heap lt a (lo + 1) hi) : HeapEx lt a lo hi lo :=
  fun p c hp hc hpc hne => H p c (Nat.lt_of_le_of_ne hp hne.symm) hc hpc

theorem pickChild_spec (lt : α → α → Bool) (O : StrictWeak lt) (a : Array α) (r hi : Nat) :
    (pickChild lt a (2 * r) hi = 2 * r ∨ pickChild lt a (2 * r) hi = 2 * r + 1) ∧
    (∀ c, c ≤ hi → IsChild r c → lt a[pickChild lt a (2 * r) hi]! a[c]! = false) := by
  unfold pickChild
  split
  · rename_i hc
    simp only [Bool.and_eq_true, decide_eq_true_eq] at hc
    refine ⟨Or.inr rfl, fun c hc1 hc2 => ?_⟩
    rcases hc2.1 with rfl | rfl
    · exact O.asymm hc.2
    · exact O.irrefl _
  · rename_i hc
    simp only [Bool.and_eq_true, decide_eq_true_eq, not_and, Bool.not_eq_true] at hc
    refine ⟨Or.inl rfl, fun c hc1 hc2 => ?_⟩
    rcases hc2.1 with rfl | rfl
    · exact O.irrefl _
    · exact hc hc1

theorem pickChild_le (lt : α → α → Bool) (a : Array α) (c0 hi : Nat) (h : c0 ≤ hi) : pickChild lt a c0 hi ≤ hi := by
  unfold pickChild
  split
  · rename_i hc; simp only [Bool.and_eq_true, decide_eq_true_eq] at hc; exact hc.1
  · exact h

theorem swap_get_left (a : Array α) {i j : Nat} (hi : i < a.size) (hj : j < a.size) : (a.swapIfInBounds i j)[i]! = a[j]! := by
  rw [get_swap a i j i hi hj, if_pos rfl]

theorem swap_get_right (a : Array α) {i j : Nat} (hi : i < a.size) (hj : j < a.size) : (a.swapIfInBounds i j)[j]! = a[i]! := by
  rw [get_swap a i j j hi hj, if_pos rfl]
  split
  · rename_i h; rw [h]
  · rfl

theorem swap_get_ne (a : Array α) {i j k : Nat} (hi : i < a.size) (hj : j < a.size) (h1 : k ≠ i) (h2 : k ≠ j) :
    (a.swapIfInBounds i j)[k]! = a[k]! := by
  rw [get_swap a i j k hi hj, if_neg h1, if_neg h2]

theorem siftDown_heap (lt : α → α → Bool) (O : StrictWeak lt) (lo hi : Nat) (fuel : Nat) (a : Array α) (r : Nat) :
    hi < a.size → hi + 1 ≤ r + fuel → HeapEx lt a lo hi r →
      -- the parent of the hole `r` dominates the hole's children: what is lifted into the hole fits under it
      (∀ p c, lo ≤ p → IsChild p r → c ≤ hi → IsChild r c → lt a[p]! a[c]! = false) →
      Heap lt (siftDown lt a r hi fuel) lo hi := by
  fun_induction siftDown lt a r hi fuel with
  | case1 a r =>  -- no fuel: by `hf` the hole is beyond `hi`
    intro hhi hf H G
    exact H.heap fun c hc hrc => absurd (Nat.lt_trans (Nat.lt_of_lt_of_le hrc.lt hc) hf) (Nat.lt_irrefl r)
  | case2 a r fuel h2r hlt ih =>  -- the hole is below its larger child `ch`: swap, go on at `ch`
    intro hhi hf H G
    have hch2 := pickChild_le lt a (2 * r) hi h2r
    obtain ⟨hch1, hch3⟩ := pickChild_spec lt O a r hi
    generalize pickChild lt a (2 * r) hi = ch at *
    have hne : ch ≠ r := by
      intro e; rw [e, O.irrefl] at hlt; cases hlt
    have hIs : IsChild r ch := ⟨hch1, hne⟩
    have hcs : ch < a.size := Nat.lt_of_le_of_lt hch2 hhi
    have hrs : r < a.size := Nat.lt_trans hIs.lt hcs
    have hf' : hi + 1 ≤ ch + fuel := Nat.le_trans hf (Nat.add_lt_add_right hIs.lt fuel)
    -- after the swap `r` dominates both its children, and the hole moves down to `ch`
    refine ih (Array.size_swapIfInBounds.symm ▸ hhi) hf' (fun p c hp hc hpc hpne => ?_) (fun p c hp hpch hc hchc => ?_)
    · by_cases hpr : p = r
      · subst hpr
        rw [swap_get_left a hrs hcs]
        by_cases hcc : c = ch
        · rw [hcc, swap_get_right a hrs hcs]; exact O.asymm hlt
        · rw [swap_get_ne a hrs hcs hpc.2 hcc]; exact hch3 c hc hpc
      · rw [swap_get_ne a hrs hcs hpr hpne]
        by_cases hcr : c = r
        · subst hcr
          rw [swap_get_left a hrs hcs]
          exact G p ch hp hpc hch2 hIs
        · rw [swap_get_ne a hrs hcs hcr fun e => hpr (child_parent_unique (e ▸ hpc) hIs)]
          exact H p c hp hc hpc hpr
    · obtain rfl : p = r := child_parent_unique hpch hIs
      rw [swap_get_left a hrs hcs, swap_get_ne a hrs hcs (Nat.ne_of_gt (Nat.lt_trans hIs.lt hchc.lt)) hchc.2]
      exact H ch c (Nat.le_trans hp (Nat.le_of_lt hIs.lt)) hc hchc hne
  | case3 a r fuel h2r hge =>  -- the hole is not below its larger child: it dominates both
    intro hhi hf H G
    exact H.heap fun c hc hrc => O.ntrans _ _ _ (Bool.eq_false_iff.2 hge) ((pickChild_spec lt O a r hi).2 c hc hrc)
  | case4 a r fuel h2r =>  -- no child within `hi`
    intro hhi hf H G
    exact H.heap fun c hc hrc => absurd (Nat.le_trans hrc.two_mul_le hc) h2r

/-- above `hi` nothing moves; the elements at `≤ hi` are permuted among themselves, so a predicate true of every one of them
stays true there -/
theorem siftDown_frame (lt : α → α → Bool) (P : α → Prop) (hi fuel : Nat) (a : Array α) (r : Nat) : hi < a.size →
      (∀ k, hi < k → (siftDown lt a r hi fuel)[k]! = a[k]!) ∧
      ((∀ k, k ≤ hi → P a[k]!) → ∀ k, k ≤ hi → P (siftDown lt a r hi fuel)[k]!) := by
  fun_induction siftDown lt a r hi fuel with
  | case2 a r fuel h2r _ ih =>  -- the branch that swaps `r` with its larger child
    intro hhi
    have hc := pickChild_le lt a (2 * r) hi h2r
    have hr : r ≤ hi := Nat.le_trans (Nat.le_mul_of_pos_left r Nat.two_pos) h2r
    have hrs : r < a.size := Nat.lt_of_le_of_lt hr hhi
    have hcs : pickChild lt a (2 * r) hi < a.size := Nat.lt_of_le_of_lt hc hhi
    obtain ⟨ih1, ih2⟩ := ih (Array.size_swapIfInBounds.symm ▸ hhi)
    refine ⟨fun k hk => ?_, fun h => ih2 fun k hk => ?_⟩
    · rw [ih1 k hk, swap_get_ne a hrs hcs (Nat.ne_of_gt (Nat.lt_of_le_of_lt hr hk))
        (Nat.ne_of_gt (Nat.lt_of_le_of_lt hc hk))]
    · rw [get_swap a r _ k hrs hcs]
      -- `split` is slow on the nested `if`
      by_cases hkr : k = r
      · rw [if_pos hkr]
        exact h _ hc
      · rw [if_neg hkr]
        split
        · exact h r hr
        · exact h k hk
  | case1 | case3 | case4 => exact fun _ => ⟨fun _ _ => rfl, id⟩  -- the array is returned as it is

theorem siftDown_heap_lo (lt : α → α → Bool) (O : StrictWeak lt) (lo hi : Nat) (a : Array α) (hhi : hi < a.size)
    (H : HeapEx lt a lo hi lo) : Heap lt (siftDown lt a lo hi (hi + 2)) lo hi :=
  siftDown_heap lt O lo hi (hi + 2) a lo hhi (Nat.le_succ_of_le (Nat.le_add_left _ _)) H
    fun _ _ hp hpl _ _ => absurd hpl.lt (Nat.not_lt_of_le hp)

theorem heapify_heap (lt : α → α → Bool) (O : StrictWeak lt) (hi : Nat) :
    ∀ (s : Nat) (a : Array α), hi < a.size → Heap lt a (s + 1) hi → Heap lt (heapify lt a hi s) 0 hi := by
  intro s
  induction s with
  | zero => intro a hhi H; exact siftDown_heap_lo lt O 0 hi a hhi H.heapEx
  | succ s ih =>
    intro a hhi H
    exact ih _ (by rw [siftDown_size]; exact hhi) (siftDown_heap_lo lt O (s + 1) hi a hhi H.heapEx)

theorem heap_root_max (lt : α → α → Bool) (O : StrictWeak lt) (a : Array α) (hi : Nat) (H : Heap lt a 0 hi) :
    ∀ j, j ≤ hi → lt a[0]! a[j]! = false := by
  intro j
  induction j using Nat.strongRecOn with
  | _ j ih =>
    intro hj
    rcases Nat.eq_zero_or_pos j with h0 | h0
    · subst h0; exact O.irrefl _
    · have hp : IsChild (j / 2) j := by omega
      exact O.ntrans _ _ _ (ih _ hp.lt (Nat.le_trans (Nat.le_of_lt hp.lt) hj)) (H _ j (Nat.zero_le _) hj hp)

/-- every position above `e` dominates everything before it -/
def SortedFrom (lt : α → α → Bool) (a : Array α) (e : Nat) : Prop :=
  ∀ i j, i < j → e < j → j < a.size → lt a[j]! a[i]! = false

theorem siftDown_sortedFrom (lt : α → α → Bool) (a : Array α) (r hi fuel : Nat) (hhi : hi < a.size)
    (S : SortedFrom lt a hi) : SortedFrom lt (siftDown lt a r hi fuel) hi := by
  intro i j hij hj hjs
  rw [siftDown_size] at hjs
  obtain ⟨above, below⟩ := siftDown_frame lt (fun x => lt a[j]! x = false) hi fuel a r hhi
  rw [above j hj]
  by_cases hi' : hi < i
  · rw [above i hi']; exact S i j hij hj hjs
  · exact below (fun k hk => S k j (Nat.lt_of_le_of_lt hk hj) hj hjs) i (Nat.le_of_not_lt hi')

theorem swap_root_sortedFrom (lt : α → α → Bool) (O : StrictWeak lt) (a : Array α) (e : Nat) (he : e + 1 < a.size)
    (H : Heap lt a 0 (e + 1)) (S : SortedFrom lt a (e + 1)) : SortedFrom lt (a.swapIfInBounds 0 (e + 1)) e := by
  have h0s : 0 < a.size := Nat.zero_lt_of_lt he
  have hmax := heap_root_max lt O a (e + 1) H
  intro i j hij hj hjs
  rw [Array.size_swapIfInBounds] at hjs
  by_cases hj1 : j = e + 1
  · -- the old root, compared with an element of the old heap
    subst hj1
    rw [swap_get_right a h0s he]
    by_cases hi0 : i = 0
    · rw [hi0, swap_get_left a h0s he]; exact hmax _ Nat.le.refl
    · rw [swap_get_ne a h0s he hi0 (Nat.ne_of_lt hij)]; exact hmax i (Nat.le_of_lt hij)
  · -- an element of the old tail, compared with something that was before it already
    have hj2 : e + 1 < j := Nat.lt_of_le_of_ne hj (Ne.symm hj1)
    rw [swap_get_ne a h0s he (Nat.ne_zero_of_lt hj) hj1, get_swap a 0 (e + 1) i h0s he]
    -- `split` is slow on the nested `if`
    by_cases hi0 : i = 0
    · rw [if_pos hi0]
      exact S _ j hj2 hj2 hjs
    · rw [if_neg hi0]
      split
      · exact S 0 j (Nat.zero_lt_of_lt hj) hj2 hjs
      · exact S i j hij hj2 hjs

theorem sortLoop_sorted (lt : α → α → Bool) (O : StrictWeak lt) :
    ∀ (e : Nat) (a : Array α), e < a.size → Heap lt a 0 e → SortedFrom lt a e → SortedFrom lt (sortLoop lt a e) 0 := by
  intro e
  induction e with
  | zero => intro a _ _ S; exact S
  | succ e ih =>
    intro a he H S
    unfold sortLoop
    have hsz : e < (a.swapIfInBounds 0 (e + 1)).size := Array.size_swapIfInBounds.symm ▸ Nat.lt_of_succ_lt he
    have h0s : 0 < a.size := Nat.zero_lt_of_lt he
    refine ih _ (by rw [siftDown_size]; exact hsz) ?_
      (siftDown_sortedFrom lt _ 0 e _ hsz (swap_root_sortedFrom lt O a e he H S))
    -- the heap on `[0, e]` is intact but for its new root
    refine siftDown_heap_lo lt O 0 e _ hsz fun p c hp hc hpc hp0 => ?_
    have hc' := Nat.lt_succ_of_le hc
    rw [swap_get_ne a h0s he hp0 (Nat.ne_of_lt (Nat.lt_trans hpc.lt hc')),
      swap_get_ne a h0s he (Nat.ne_zero_of_lt hpc.lt) (Nat.ne_of_lt hc')]
    exact H p c hp (Nat.le_of_lt hc') hpc

theorem sortLoop_perm (lt : α → α → Bool) : ∀ (e : Nat) (a : Array α), (sortLoop lt a e).Perm a := by
  intro e
  induction e with
  | zero => intro a; exact Array.Perm.refl _
  | succ e ih => intro a; exact (ih _).trans ((siftDown_perm _ _ _ _ _).trans (swapIfInBounds_perm _ _ _))

theorem heapify_perm (lt : α → α → Bool) (hi : Nat) : ∀ (s : Nat) (a : Array α), (heapify lt a hi s).Perm a := by
  intro s
  induction s with
  | zero => intro a; exact siftDown_perm _ _ _ _ _
  | succ s ih => intro a; exact (ih _).trans (siftDown_perm _ _ _ _ _)

theorem heapSort_sorted (lt : α → α → Bool) (O : StrictWeak lt) (a : Array α) :
    ∀ i j, i < j → j < (heapSort lt a).size → lt (heapSort lt a)[j]! (heapSort lt a)[i]! = false := by
  unfold heapSort
  split
  · intro i j _ hj; rename_i h0; omega
  · rename_i h0
    have hhi : a.size - 1 < a.size := Nat.sub_one_lt h0
    have hsz : (heapify lt a (a.size - 1) (a.size / 2)).size = a.size := (heapify_perm ..).size_eq
    -- no position above `size / 2` has a child in range; nothing lies above `size - 1`
    have hh := heapify_heap lt O (a.size - 1) (a.size / 2) a hhi fun p c hp hc hpc =>
      -- omega is slow on this: `2 * (size / 2 + 1) ≤ 2 * p ≤ c ≤ size - 1 < size < 2 * (size / 2 + 1)`
      absurd (Nat.le_trans (Nat.mul_le_mul_left 2 hp) (Nat.le_trans hpc.two_mul_le hc))
        (Nat.not_le_of_lt (Nat.lt_trans hhi (Nat.lt_mul_div_succ _ Nat.two_pos)))
    have := sortLoop_sorted lt O (a.size - 1) _ (hsz.symm ▸ hhi) hh
      fun i j _ hj hjs => absurd (Nat.le_of_pred_lt hj) (Nat.not_le_of_lt (hsz ▸ hjs))
    exact fun i j hij hj => this i j hij (Nat.zero_lt_of_lt hij) hj

theorem heapSort_perm (lt : α → α → Bool) (a : Array α) : (heapSort lt a).Perm a := by
  unfold heapSort
  split
  · exact Array.Perm.refl _
  · exact (sortLoop_perm _ _ _).trans (heapify_perm _ _ _ _)

end Flatcc.Sort
