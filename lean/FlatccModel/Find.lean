/-! The generated binary search `__flatbuffers_find_by_field` (codegen_c_reader.c). -/
namespace Flatcc.Sort

/-- `cmp x` = D(elem, key): negative / zero / positive as Int. The loop of `find_by_field`
    on indices [a, b] (b inclusive), fuel-bounded. -/
def findLoop (cmp : Nat → Int) : Nat → Nat → Nat → Nat × Nat
  | 0, a, b => (a, b)
  | fuel+1, a, b =>
    if a < b then
      let m := a + ((b - a) / 2)
      if cmp m < 0 then findLoop cmp fuel (m + 1) b else findLoop cmp fuel a m
    else (a, b)

/-- returns some index or none (= not_found) -/
def find (cmp : Nat → Int) (len : Nat) : Option Nat :=
  if len = 0 then none else
  let r := findLoop cmp len 0 (len - 1)
  if r.1 = r.2 then (if cmp r.1 = 0 then some r.1 else none) else none

/-- vector sorted w.r.t. the key: cmp is monotone non-decreasing in the index -/
def Mono (cmp : Nat → Int) (len : Nat) : Prop := ∀ i j, i ≤ j → j < len → cmp i ≤ cmp j

end Flatcc.Sort
