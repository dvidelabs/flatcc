import FlatccModel.BuilderEmit
/-!
# The header `create_buffer` emits

`bufferBase` in `bufHeader` is `emitStart - len + off` with the size field (`off`) counted in `len` and added back: the
address of the root offset field, whether or not a size field precedes it (`bufBase`).
-/
namespace Flatcc.Builder

/-- the identifier `create_buffer` writes: none for an all-zero or malformed one -/
def idOut (ident : List Nat) : List Nat := if ident.length = 4 ∧ ident ≠ [0, 0, 0, 0] then ident else []

/-- `header_pad` of `flatcc_builder_create_buffer` -/
def bufPad (s : BS) (ident : List Nat) (align : Nat) : Nat :=
  frontPad s (4 + (idOut ident).length + (if s.withSize then 4 else 0)) align

/-- `buffer_base` of `flatcc_builder_create_buffer` -/
def bufBase (s : BS) (ident : List Nat) (align : Nat) : Int :=
  s.emitStart - (4 + (idOut ident).length + bufPad s ident align : Nat)

theorem bufHeader_eq (s : BS) (ident : List Nat) (rootRef : Int) (align : Nat) (nested : Bool) :
    bufHeader s ident rootRef align nested =
      (if nested || s.withSize then le32 (u32 ((if nested then s.bufferMark else s.emitEnd) - bufBase s ident align)) else []) ++
        (le32 (u32 (rootRef - bufBase s ident align)) ++ (idOut ident ++ zeros (bufPad s ident align))) := by
  have hb (b : Bool) (x : Int) (n : Nat) : x - (((if b then 4 else 0) + n : Nat) : Int) + (if b then 4 else 0) = x - n := by
    -- no case split on `b` (omega is slow here): the chain gives `x - n - k + k` with the cast inside the `if`
    rw [Nat.add_comm, Int.natCast_add, ← Int.sub_sub, apply_ite Nat.cast]
    exact Int.sub_add_cancel ..
  unfold bufHeader bufBase bufPad idOut
  simp only [Nat.add_assoc, hb, List.append_assoc]
  cases nested <;> rfl

theorem bufHeader_length (s : BS) (ident : List Nat) (rootRef : Int) (align : Nat) (nested : Bool) :
    (bufHeader s ident rootRef align nested).length =
      (if nested || s.withSize then 4 else 0) + (4 + (idOut ident).length + bufPad s ident align) := by
  rw [bufHeader_eq]
  simp only [List.length_append, apply_ite List.length, le32_length, zeros_length, List.length_nil, Nat.add_assoc]

theorem bufHeader_root (s : BS) (ident : List Nat) (rootRef : Int) (align : Nat) (nested : Bool) (rest : List Nat) :
    slice (bufHeader s ident rootRef align nested ++ rest) (if nested || s.withSize then 4 else 0) 4
      = le32 (u32 (rootRef - bufBase s ident align)) := by
  rw [bufHeader_eq, List.append_assoc, List.append_assoc]
  exact slice_mid _ (le32 _) _ _ 4 (apply_ite List.length ..) rfl

theorem bufHeader_size (s : BS) (ident : List Nat) (rootRef : Int) (align : Nat) (rest : List Nat) :
    slice (bufHeader s ident rootRef align true ++ rest) 0 4 = le32 (u32 (s.bufferMark - bufBase s ident align)) := by
  rw [bufHeader_eq]
  simp only [Bool.true_or, if_true]
  rw [List.append_assoc]
  exact slice_mid [] (le32 _) _ 0 4 rfl rfl

theorem bufBase_aligned (s : BS) (ident : List Nat) (align : Nat) (h : 0 < align) :
    (bufBase s ident align - (if s.withSize then 4 else 0 : Nat)) % (align : Int) = 0 := by
  -- the size field and the padding change places (by hand: omega on the stated equation is slow)
  rw [bufBase, Int.sub_sub, ← Int.natCast_add, Nat.add_right_comm, Int.natCast_add, ← Int.sub_sub]
  exact frontPad_spec s (4 + (idOut ident).length + (if s.withSize then 4 else 0)) align h

theorem bufPrep_eq (s : BS) (al : Nat) (nested : Bool) :
    ∃ back emits, bufPrep s al nested = { s with back := back, emits := emits, minAlign := max s.minAlign al } := by
  unfold bufPrep
  cases nested
  · simp only [Bool.false_eq_true, if_false]
    split <;> exact ⟨_, _, setMinAlign_eq ..⟩
  · exact ⟨_, _, setMinAlign_eq ..⟩

/-- `base` is the address of the root offset field; what is aligned is `base` minus the size field that the size flag
announces (which a nested buffer with the flag set does not get a second time). -/
theorem createBuffer_header (s : BS) (ident : List Nat) (rootRef : Int) (a : Nat) (nested : Bool) :
    let r := createBuffer s ident rootRef a nested
    let off : Nat := if nested || s.withSize then 4 else 0
    let base := r.2 + off
    (base - (if s.withSize then 4 else 0 : Nat)) % (bufAlign s a : Int) = 0 ∧ bufAlign s a ≤ r.1.minAlign ∧
    r.2 = r.1.emitStart ∧
    (s.emitStart ≤ rootRef → rootRef - base < 4294967296 → base + rd32 r.1.front off = rootRef) ∧
    (nested = true → s.emitStart ≤ s.bufferMark → s.bufferMark - base < 4294967296 →
      base + rd32 r.1.front 0 = s.bufferMark) := by
  intro r off base
  have hal : 0 < bufAlign s a :=
    Nat.lt_of_lt_of_le (by decide : 0 < 4) (Nat.le_trans (Nat.le_max_right a 4) (Nat.le_max_left ..))
  obtain ⟨bk, em, hs1⟩ := bufPrep_eq s (bufAlign s a) nested
  have hr : r = emitFront (bufPrep s (bufAlign s a) nested)
      (bufHeader (bufPrep s (bufAlign s a) nested) ident rootRef (bufAlign s a) nested) := rfl
  -- of `s1`, the state after the end padding, only `emitStart`, `withSize` and `bufferMark` matter from here on
  generalize bufPrep s (bufAlign s a) nested = s1 at hr hs1
  generalize bufAlign s a = A at *
  have hst : s1.emitStart = s.emitStart := by rw [hs1]; rfl
  have hlow : bufBase s1 ident A < s.emitStart := by unfold bufBase; omega
  have hws : s1.withSize = s.withSize := by rw [hs1]
  have hmk : s1.bufferMark = s.bufferMark := by rw [hs1]
  have hoff : off = if nested || s1.withSize then 4 else 0 := by rw [hws]
  have hbase : base = bufBase s1 ident A := by
    show r.2 + off = _
    -- `start − (off + rest) + off = start − rest`
    rw [hr, emitFront_ref, bufHeader_length, hoff, Nat.add_comm, Int.natCast_add, ← Int.sub_sub, Int.sub_add_cancel]
    rfl
  have hfront : r.1.front = bufHeader s1 ident rootRef A nested ++ s1.front := by rw [hr]; rfl
  refine ⟨?_, ?_, ?_, fun h0 h1 => ?_, fun hn h0 h1 => ?_⟩
  · rw [hbase, ← hws]
    exact bufBase_aligned s1 ident A hal
  · rw [hr, hs1]
    exact Nat.le_max_right _ _
  · rw [hr, emitFront_ref, emitFront_start]
  · rw [hbase] at h1 ⊢
    refine (rd32_offset r.1.front off _ rootRef ?_ (Int.lt_of_lt_of_le hlow h0) h1).2
    rw [hfront, hoff]
    exact bufHeader_root s1 ident rootRef A nested s1.front
  · rw [hbase] at h1 ⊢
    refine (rd32_offset r.1.front 0 _ s.bufferMark ?_ (Int.lt_of_lt_of_le hlow h0) h1).2
    rw [hfront, hn, ← hmk]
    exact bufHeader_size s1 ident rootRef A s1.front

theorem le_bufAlign (s : BS) (a : Nat) : a ≤ bufAlign s a :=
  Nat.le_trans (Nat.le_max_left a 4) (Nat.le_max_left ..)

/-- what `end_buffer` leaves of the state `create_buffer` returns: the streams, and the larger of the two alignments -/
theorem endBuffer_fst (saved s : BS) (ident : List Nat) (rootRef : Int) :
    let c := (createBuffer (setMinAlign s s.blockAlign) ident rootRef (setMinAlign s s.blockAlign).minAlign
      ((setMinAlign s s.blockAlign).nestId ≠ 0)).1
    let r := (endBuffer saved s ident rootRef).1
    r.emits = c.emits ∧ r.front = c.front ∧ r.back = c.back ∧ r.minAlign = max c.minAlign saved.minAlign :=
  ⟨rfl, rfl, rfl, rfl⟩

end Flatcc.Builder
