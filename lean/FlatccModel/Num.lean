/-!
# Integer ↔ text (C19, shared by C05 and C08)

Model of
* `include/flatcc/portable/pprintint.h`  (`print_uint8/16/32/64`, `print_int8/16/32/64`)
* `src/runtime/json_parser.c`            (`flatcc_json_parser_integer`)
* `include/flatcc/flatcc_json_parser.h`  (`flatcc_json_parser_coerce_<type>`)
* `include/flatcc/portable/pparseint.h`  (`parse_integer`: the same digit loop)

Text is a `List Nat` of byte values.  C unsigned arithmetic is `Nat` with explicit `%`.
-/
namespace Flatcc.Num

def U64 : Nat := 18446744073709551616

/-! ## Printing -/

/-- one step of the unrolled printing switch: `__print_stage` (two digits), `__print_short_stage`
(one digit, `n % 10`), or the final `p[-1] = (char)n + '0'` (one digit, *no* reduction). -/
inductive St | pair | short | last
  deriving Repr, DecidableEq

/-- characters produced by a plan, leftmost first (the C code writes right-to-left, first step = rightmost). -/
def runPlan : List St → Nat → List Nat
  | [], _ => []
  | .pair :: r, n => runPlan r (n / 100) ++ [48 + n % 100 / 10, 48 + n % 100 % 10]
  | .short :: r, n => runPlan r (n / 10) ++ [48 + n % 10]
  | .last :: _, n => [(48 + n) % 256]

def planDigits : List St → Nat
  | [] => 0
  | .pair :: r => planDigits r + 2
  | .short :: r => planDigits r + 1
  | .last :: _ => 1

def pairs (k : Nat) : List St := List.replicate k .pair

/-- digit count decision trees, literally as in the source -/
def klen8 (n : Nat) : Nat := if n ≥ 100 then 3 else if n ≥ 10 then 2 else 1

def klen16 (n : Nat) : Nat :=
  if n ≥ 1000 then (if n ≥ 10000 then 5 else 4)
  else (if n ≥ 100 then 3 else if n ≥ 10 then 2 else 1)

def klen32 (n : Nat) : Nat :=
  if n ≥ 10000 then
    (if n ≥ 10000000 then
      (if n ≥ 1000000000 then 10 else if n ≥ 100000000 then 9 else 8)
     else (if n ≥ 1000000 then 7 else if n ≥ 100000 then 6 else 5))
  else
    (if n ≥ 100 then (if n ≥ 1000 then 4 else 3) else (if n ≥ 10 then 2 else 1))

/-- only used for `n ≥ 10^9`; thresholds are `c * 10^9` written out -/
def klen64 (n : Nat) : Nat :=
  if n ≥ 10000000000000 then
    (if n ≥ 10000000000000000 then
      (if n ≥ 1000000000000000000 then
        (if n ≥ 10000000000000000000 then 20 else 19)
       else if n ≥ 100000000000000000 then 18 else 17)
     else (if n ≥ 1000000000000000 then 16 else if n ≥ 100000000000000 then 15 else 14))
  else
    (if n ≥ 100000000000 then (if n ≥ 1000000000000 then 13 else 12)
     else (if n ≥ 10000000000 then 11 else 10))

/-- u8/u16/u32: odd k ⇒ (k-1)/2 pair stages then the bare last digit; even k ⇒ k/2 pair stages -/
def planSmall (k : Nat) : List St := pairs (k / 2) ++ (if k % 2 = 1 then [.last] else [])

/-- u64 for n ≥ 10^9: odd k ⇒ (k-9)/2 pairs, a short stage, 4 pairs; even k ⇒ (k-8)/2 + 4 pairs -/
def plan64 (k : Nat) : List St :=
  if k % 2 = 1 then pairs ((k - 9) / 2) ++ [.short] ++ pairs 4 else pairs ((k - 8) / 2 + 4)

def printU8 (n : Nat) : List Nat := runPlan (planSmall (klen8 n)) n
def printU16 (n : Nat) : List Nat := runPlan (planSmall (klen16 n)) n
def printU32 (n : Nat) : List Nat := runPlan (planSmall (klen32 n)) n
def printU64 (n : Nat) : List Nat :=
  if n < 1000000000 then printU32 n else runPlan (plan64 (klen64 n)) n

/-- signed printing: `'-'` then the magnitude through the unsigned printer.  The C negates in the
signed type; for `MIN` that is the well-known wrap to the same bit pattern, whose unsigned cast is
`|MIN|`, which is what `Int.natAbs` gives. -/
def printI (pu : Nat → List Nat) (i : Int) : List Nat :=
  if i < 0 then 45 :: pu i.natAbs else pu i.natAbs

def printI8 := printI printU8
def printI16 := printI printU16
def printI32 := printI printU32
def printI64 := printI printU64

/-! ## Exact decimal value of a digit text (specification side) -/

def isDigit (c : Nat) : Bool := decide (48 ≤ c) && decide (c ≤ 57)

def decval (l : List Nat) : Nat := l.foldl (fun acc c => acc * 10 + (c - 48)) 0

def AllDigits (l : List Nat) : Prop := ∀ c ∈ l, 48 ≤ c ∧ c ≤ 57

/-! ## Scanning -/

/-- the digit loop of `flatcc_json_parser_integer` / `parse_integer` (range test *before* the
multiplication: the repaired code, see known_findings `json-int-scan-wrap`, `schema-int-scan-wrap`).
Returns `(none, _)` on overflow, else `(some value, digits consumed)`. -/
def digitLoop : List Nat → Nat → Nat → Option Nat × Nat
  | [], x, cnt => (some x, cnt)
  | c :: cs, x, cnt =>
    if isDigit c then
      if x > (18446744073709551615 - (c - 48)) / 10 then (none, cnt)
      else digitLoop cs (x * 10 + (c - 48)) (cnt + 1)
    else (some x, cnt)

/-- the loop as it was before the repair: `x0 = x; x = x*10 + d (mod 2^64); if (x0 > x) overflow` -/
def digitLoopOld : List Nat → Nat → Nat → Option Nat × Nat
  | [], x, cnt => (some x, cnt)
  | c :: cs, x, cnt =>
    if isDigit c then
      if x > (x * 10 + (c - 48)) % 18446744073709551616 then (none, cnt)
      else digitLoopOld cs ((x * 10 + (c - 48)) % 18446744073709551616) (cnt + 1)
    else (some x, cnt)

inductive IntRes
  | nomatch                                   -- pointer returned unchanged, no error
  | ok (neg : Bool) (v : Nat) (consumed : Nat)
  | range                                     -- overflow / underflow error
  | floatUnexpected
  deriving Repr, DecidableEq

/-- `flatcc_json_parser_integer` on the bytes `[buf, end)` -/
def jsonIntegerWith (loop : List Nat → Nat → Nat → Option Nat × Nat) (buf : List Nat) : IntRes :=
  match buf with
  | [] => .nomatch
  | c :: cs =>
    let neg := c == 45
    let rest := if neg then cs else buf
    match loop rest 0 0 with
    | (none, _) => .range
    | (some x, cnt) =>
      let consumed := cnt + (if neg then 1 else 0)
      if consumed = 0 then .nomatch
      else match rest.drop cnt with
        | d :: _ => if d = 101 ∨ d = 69 ∨ d = 46 then .floatUnexpected else .ok neg x consumed
        | [] => .ok neg x consumed

def jsonInteger := jsonIntegerWith digitLoop

/-- `coerce_uint8/16/32/64`: `lim` = 2^bits -/
def coerceU (lim : Nat) (neg : Bool) (v : Nat) : Option Nat :=
  if neg then none else if v > lim - 1 then none else some v

/-- `coerce_int8/16/32/64`: `m` = 2^(bits-1).  The store is `(basetype)-(int64_t)value`, i.e. the
two's complement of `value` truncated to the type and read back signed. -/
def coerceS (m : Nat) (neg : Bool) (v : Nat) : Option Int :=
  if neg then
    if v > m then none
    else
      let t := ((18446744073709551616 - v) % 18446744073709551616) % (2 * m)
      some (if t < m then (t : Int) else (t : Int) - (2 * m : Nat))
  else
    if v > m - 1 then none else some (v : Int)

def coerceBool (neg : Bool) (v : Nat) : Option Nat :=
  if neg then none else some (if v = 0 then 0 else 1)

end Flatcc.Num
