import FlatccModel.Reader
import FlatccModel.VerifierAttr
/-! What the definitions of the verifier and reader models say, and the two shapes they are made of: the header of
`verify_table` and the offset field. -/
namespace Flatcc.Verifier

theorem bind_ok {α β ε} {e : Except ε α} {k : α → Except ε β} {r : β}
    (h : (e >>= k) = .ok r) : ∃ v, e = .ok v ∧ k v = .ok r := by
  cases e with
  | error _ => cases h
  | ok v => exact ⟨v, rfl, h⟩

theorem bind_mono {α} {e : V α} {k1 k2 : α → V Unit}
    (hk : ∀ v, k1 v = .ok () → k2 v = .ok ()) (h : (e >>= k1) = .ok ()) : (e >>= k2) = .ok () := by
  cases e with
  | error _ => cases h
  | ok v => exact hk v h

theorem ok_bind {α β} (v : α) (k : α → V β) : ((.ok v : V α) >>= k) = k v := rfl

theorem guard_ok {b} (h : guard' b = .ok ()) : b = true := by
  cases b with
  | true => rfl
  | false => cases h

theorem ite_bind_ok {α β} {p : Prop} [Decidable p] {v : α} {e : VErr} {k : α → V β} {r : β} :
    ((if p then .ok v else .error e : V α) >>= k) = .ok r ↔ p ∧ k v = .ok r := by
  by_cases h : p
  · rw [if_pos h]; exact ⟨fun hk => ⟨h, hk⟩, fun hk => hk.2⟩
  · rw [if_neg h]; exact ⟨(nomatch ·), fun hk => absurd hk.1 h⟩

section
variable {β : Type} {c : Ctx} {i : Nat} {r : β}
@[accepts] theorem unit_bind_ok {e : V Unit} {k : Unit → V β} : (e >>= k) = .ok r ↔ e = .ok () ∧ k () = .ok r := by
  cases e with
  | error _ => exact ⟨(nomatch ·), (nomatch ·.1)⟩
  | ok _ => exact ⟨fun h => ⟨rfl, h⟩, fun h => h.2⟩
@[accepts] theorem rd8_bind_ok {k : Nat → V β} : (rd8 c i >>= k) = .ok r ↔ i < c.n ∧ k (r8 c i) = .ok r := ite_bind_ok
@[accepts] theorem rd16_bind_ok {k : Nat → V β} : (rd16 c i >>= k) = .ok r ↔ i + 2 ≤ c.n ∧ k (r16 c i) = .ok r := ite_bind_ok
@[accepts] theorem rd32_bind_ok {k : Nat → V β} : (rd32 c i >>= k) = .ok r ↔ i + 4 ≤ c.n ∧ k (r32 c i) = .ok r := ite_bind_ok
end

@[accepts] theorem guard_ok_iff {b : Bool} {u : Unit} : guard' b = .ok u ↔ b = true := by
  cases b
  · exact ⟨(nomatch ·), (nomatch ·)⟩
  · exact ⟨fun _ => rfl, fun _ => rfl⟩

@[accepts] theorem pure_ok_iff {α} {a b : α} : (pure a : V α) = .ok b ↔ a = b :=
  ⟨Except.ok.inj, congrArg _⟩

attribute [accepts] decide_eq_true_eq Bool.and_eq_true Bool.or_eq_true Bool.not_eq_true' Bool.or_eq_false_iff decide_eq_false_iff_not
  beq_iff_eq bne_iff_ne

theorem rd16_of_le {c : Ctx} {i : Nat} (h : i + 2 ≤ c.n) : rd16 c i = .ok (r16 c i) := if_pos h

/-- one more little-endian byte `y` above a value below `B` -/
theorem byte_above_lt {B x y : Nat} (hx : x < B) (hy : y < 256) : x + B * y < B * 256 := by
  have h : x + B * y < B * (y + 1) := by rw [Nat.mul_succ, Nat.add_comm]; exact Nat.add_lt_add_left hx _
  exact Nat.lt_of_lt_of_le h (Nat.mul_le_mul_left B hy)

theorem r8_lt (c i) : r8 c i < 256 := Nat.mod_lt _ (by decide)
theorem r16_lt (c i) : r16 c i < 65536 := byte_above_lt (r8_lt c i) (r8_lt c (i + 1))
theorem r32_lt (c i) : r32 c i < 4294967296 :=
  byte_above_lt (byte_above_lt (r16_lt c i) (r8_lt c (i + 2))) (r8_lt c (i + 3))

theorem readVt_lt (c : Ctx) (table id : Nat) : (readVt c table id).1 < 65536 := by
  unfold readVt
  dsimp only
  split
  · exact r16_lt _ _
  · simp

theorem r32_sub (c : Ctx) (s len i : Nat) : r32 (sub c s len) i = r32 c (s + i) := by
  unfold r32 sub
  simp only [Nat.add_assoc]

/-- the low 32 bits of an address decide every power-of-two alignment -/
theorem abs_mod {A x a : Nat} (hd : a ∣ 4294967296) : w32 (w32 A + x) % a = (A + x) % a := by
  unfold w32
  rw [Nat.mod_mod_of_dvd _ hd, Nat.add_mod, Nat.mod_mod_of_dvd A hd, ← Nat.add_mod]

theorem w32_add_of_le {x s : Nat} (hx : x < 4294967296) (hs : s < 4294967296) (h : x ≤ w32 (x + s)) : w32 (x + s) = x + s := by
  unfold w32 at h ⊢
  omega

/-- the reader subtracts the *signed* soffset (`readVtBase`), the verifier subtracts in `uoffset_t` and tests the direction -/
theorem toNat_sub_soffset {t so : Nat} (ht : t < 4294967296) (hso : so < 4294967296) (h1 : sub32 t so < 2147483648)
    (h2 : (if so < 2147483648 then decide (sub32 t so ≤ t) else decide (sub32 t so > t)) = true) :
    ((t : Int) - (if so < 2147483648 then (so : Int) else (so : Int) - 4294967296)).toNat = sub32 t so := by
  unfold sub32 at h1 h2 ⊢
  -- stated in `Int`, so that `omega` need not split on `toNat` as well
  suffices h : (t : Int) - (if so < 2147483648 then (so : Int) else (so : Int) - 4294967296)
      = ((t + 4294967296 - so) % 4294967296 : Nat) by rw [h, Int.toNat_natCast]
  split
  · omega
  · rename_i hneg
    rw [if_neg hneg, decide_eq_true_eq] at h2
    omega

/-- the part of `verify_table` that locates the table, its vtable and their sizes -/
def tableHeader (c : Ctx) (base offset : Nat) : V (Nat × Nat × Nat × Nat) :=
  guard' (checkHeader c.n base offset) >>= fun _ =>
  rd32 c (w32 (base + offset)) >>= fun so =>
  guard' (decide (sub32 (w32 (base + offset)) so < 2147483648) &&
          decide (sub32 (w32 (base + offset)) so % 2 = 0)) >>= fun _ =>
  guard' (if so < 2147483648 then decide (sub32 (w32 (base + offset)) so ≤ w32 (base + offset))
          else decide (sub32 (w32 (base + offset)) so > w32 (base + offset))) >>= fun _ =>
  guard' (decide (sub32 (w32 (base + offset)) so + 2 ≤ c.n)) >>= fun _ =>
  rd16 c (sub32 (w32 (base + offset)) so) >>= fun vsize =>
  guard' (decide (sub32 (w32 (base + offset)) so + vsize ≤ c.n) && decide (vsize % 2 = 0)) >>= fun _ =>
  guard' (decide (vsize ≥ 4)) >>= fun _ =>
  rd16 c (sub32 (w32 (base + offset)) so + 2) >>= fun tsize =>
  guard' (decide (sub32 c.n (w32 (base + offset)) ≥ tsize)) >>= fun _ =>
  pure (w32 (base + offset), sub32 (w32 (base + offset)) so, vsize, tsize)

theorem verifyTable_succ (S : Schema) (c : Ctx) (fuel base offset : Nat) (ttl : Int) (t : Nat) :
    verifyTable S c (fuel + 1) base offset ttl t =
      guard' (decide (ttl - 1 > 0)) >>= fun _ => tableHeader c base offset >>= fun d =>
      verifyFields S c fuel { table := d.1, vtable := d.2.1, vsize := d.2.2.1, tsize := d.2.2.2, ttl := ttl - 1 }
        (S.table t) := by
  rw [verifyTable]
  simp only [tableHeader, bind_assoc, pure_bind]

theorem fields_all {S : Schema} (c : Ctx) (fuel : Nat) (td : TD) :
    ∀ fs, verifyFields S c fuel td fs = .ok () ↔ ∀ f ∈ fs, verifyKind S c fuel td f = .ok () := by
  intro fs
  induction fs with
  | nil => unfold verifyFields; simp
  | cons f fs ih =>
    unfold verifyFields
    constructor
    · intro h g hg
      obtain ⟨_, h1, h2⟩ := bind_ok h
      rcases List.mem_cons.mp hg with rfl | hg
      · exact h1
      · exact ih.mp h2 g hg
    · intro h
      rw [h f List.mem_cons_self]
      exact ih.mpr (fun g hg => h g (List.mem_cons_of_mem _ hg))

theorem mem_fieldsAcc {S : Schema} {c : Ctx} {fuel table : Nat} {a : Access} :
    ∀ fs, a ∈ fieldsAcc S c fuel table fs ↔ ∃ f ∈ fs, a ∈ fieldAcc S c fuel table f := by
  intro fs
  induction fs with
  | nil => unfold fieldsAcc; simp
  | cons f fs ih => unfold fieldsAcc; simp [ih]

/-- `get_offset_field`, then `K slot offset` if the field is present. Every offset arm of `verifyKind` is one of these, and the
matching arm of `fieldAcc` an `offsetAcc`, by unfolding alone (the two union kinds contain them under other steps), so they are used
without equation lemmas; only `fieldAcc`'s union vector arm, which combines three, is written out below. -/
def offsetV (c : Ctx) (td : TD) (id : Nat) (req : Bool) (K : Nat → Nat → V Unit) : V Unit :=
  getOffsetField c td id req >>= fun r =>
    match r with
    | none => pure ()
    | some b => rd32 c b >>= fun o => K b o

/-- the reader's side: the vtable lookup and, if the field is present, its slot and `rest` at the slot's target -/
def offsetAcc (c : Ctx) (table id : Nat) (rest : Nat → List Access) : List Access :=
  if (readVt c table id).1 = 0 then (readVt c table id).2
  else (readVt c table id).2 ++ ⟨table + (readVt c table id).1, 4, 4⟩ ::
    rest (table + (readVt c table id).1 + r32 c (table + (readVt c table id).1))

section
variable (S : Schema) (c : Ctx) (fuel : Nat) (id : Nat) (req : Bool) (table u : Nat)

theorem fieldAcc_unionVector :
    fieldAcc S c fuel table ⟨id, req, .unionVector u⟩ =
      offsetAcc c table (id - 1) (fun p => vectorAcc c p 1 1) ++
      offsetAcc c table id (fun p => [⟨p, 4, 4⟩]) ++
      (if (readVt c table (id - 1)).1 = 0 then []
       else unionElemsAcc S c fuel u
         (r32 c (table + (readVt c table (id - 1)).1 + r32 c (table + (readVt c table (id - 1)).1)))
         (table + (readVt c table (id - 1)).1 + r32 c (table + (readVt c table (id - 1)).1) + 4)
         (if (readVt c table id).1 = 0 then nullBase
          else table + (readVt c table id).1 + r32 c (table + (readVt c table id).1) + 4)) := by
  rw [fieldAcc]; rfl

end

end Flatcc.Verifier
