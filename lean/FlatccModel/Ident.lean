import FlatccModel.Verifier
/-!
# Type hashes and identifiers (`flatcc_identifier.h`, `semantics.c: set_type_hash`, generated `has_identifier`)
-/
namespace Flatcc.Ident
open Flatcc.Verifier

def fnvOffset : Nat := 2166136261
def fnvPrime : Nat := 16777619

/-- `fb_hash_fnv1a_32_append(hash, data, len)` -/
def fnvAppend (h : Nat) (data : List Nat) : Nat :=
  data.foldl (fun h b => ((h ^^^ (b % 256)) * fnvPrime) % 4294967296) h

/-- `flatbuffers_type_hash_from_name(name)` (runtime): zero is mapped to the hash of "" -/
def typeHashFromName (name : List Nat) : Nat :=
  let h := fnvAppend fnvOffset name
  if h = 0 then fnvOffset else h

/-- `set_type_hash(ct)` (schema compiler): scope components each followed by '.', then the name -/
def compileTypeHash (scope : List (List Nat)) (name : List Nat) : Nat :=
  let h := scope.foldl (fun h comp => fnvAppend (fnvAppend h comp) [46]) fnvOffset
  let h := fnvAppend h name
  if h = 0 then fnvOffset else h

/-- the dot-qualified name -/
def dotted (scope : List (List Nat)) (name : List Nat) : List Nat :=
  scope.foldr (fun comp acc => comp ++ [46] ++ acc) name

/-- `flatbuffers_identifier_from_type_hash` -/
def identifierFromHash (h : Nat) : List Nat := [h % 256, h / 256 % 256, h / 65536 % 256, h / 16777216 % 256]

/-- `flatbuffers_type_hash_from_identifier` -/
def hashFromIdentifier : List Nat → Nat
  | [b0, b1, b2, b3] => b0 + 256 * b1 + 65536 * b2 + 16777216 * b3
  | _ => 0

/-- generated `flatbuffers_has_identifier(buffer, fid)`: `fid = none` is the null pointer.
`stored` is the 32-bit word at offset 4 of the buffer. -/
def hasIdentifier (stored : Nat) (fid : Option (List Nat)) : Bool :=
  match fid with
  | none => true
  | some s => let id2 := hashFromString (s ++ [0, 0, 0, 0]); id2 == 0 || stored == id2

/-- generated `flatbuffers_has_type_hash(buffer, thash)` -/
def hasTypeHash (stored thash : Nat) : Bool := thash == 0 || stored == thash

/-- what `flatcc_builder_create_buffer` puts after the root offset: the 4 identifier bytes, or nothing
when the identifier is null or all zero -/
def storedIdentifier (fid : Option (List Nat)) : Option (List Nat) :=
  match fid with
  | none => none
  | some s => if hashFromIdentifier s = 0 then none else some s

end Flatcc.Ident
