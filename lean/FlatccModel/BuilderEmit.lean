import FlatccModel.BuilderBytes
import FlatccModel.BuilderIov
/-! # The emit layer: what each `create_*` emits (one equation per operation) and where it lands -/
namespace Flatcc.Builder

theorem frontPad_spec (s : BS) (size align : Nat) (h : 0 < align) :
    (s.emitStart - size - frontPad s size align) % (align : Int) = 0 := by
  unfold frontPad
  rw [Int.toNat_of_nonneg (Int.emod_nonneg _ (by omega))]
  rw [Int.sub_emod, Int.emod_emod, Int.sub_self, Int.zero_emod]

theorem frontPad_lt (s : BS) (size align : Nat) (h : 0 < align) : frontPad s size align < align := by
  have h1 : (s.emitStart - size) % (align : Int) < align := Int.emod_lt_of_pos _ (Int.natCast_pos.2 h)
  exact (Int.toNat_lt' h).2 h1

theorem emitFront_ref (s : BS) (b : List Nat) : (emitFront s b).2 = s.emitStart - b.length := by
  simp [emitFront, BS.emitStart]; omega

theorem emitFront_start (s : BS) (b : List Nat) : (emitFront s b).1.emitStart = s.emitStart - b.length :=
  emitFront_ref s b

theorem emitFront_front (s : BS) (b : List Nat) : (emitFront s b).1.front = b ++ s.front := rfl
theorem emitFront_back (s : BS) (b : List Nat) : (emitFront s b).1.back = s.back := rfl

theorem emitBack_ref (s : BS) (b : List Nat) : (emitBack s b).2 = s.emitEnd + 1 := rfl
theorem emitBack_back (s : BS) (b : List Nat) : (emitBack s b).1.back = s.back ++ b := rfl
theorem emitBack_front (s : BS) (b : List Nat) : (emitBack s b).1.front = s.front := rfl

theorem setMinAlign_eq (s : BS) (a : Nat) : setMinAlign s a = { s with minAlign := max s.minAlign a } := by
  unfold setMinAlign
  split
  next h => rw [Nat.max_eq_right (Nat.le_of_lt h)]
  next h => rw [Nat.max_eq_left (Nat.le_of_not_lt h)]

theorem setMinAlign_start (s : BS) (a : Nat) : (setMinAlign s a).emitStart = s.emitStart := by
  rw [setMinAlign_eq]; rfl

theorem setMinAlign_front (s : BS) (a : Nat) : (setMinAlign s a).front = s.front := by rw [setMinAlign_eq]

theorem setMinAlign_frontPad (s : BS) (a size al : Nat) : frontPad (setMinAlign s a) size al = frontPad s size al := by
  unfold frontPad; rw [setMinAlign_start]

theorem setMinAlign_ge (s : BS) (a : Nat) : s.minAlign ≤ (setMinAlign s a).minAlign := by
  rw [setMinAlign_eq]
  exact Nat.le_max_left _ _

theorem createString_eq (s : BS) (d : List Nat) :
    createString s d = emitFront s (le32 d.length ++ d ++ zeros (frontPad s (d.length + 1) 4 + 1)) := rfl

theorem createVector_eq (s : BS) (d : List Nat) (count align : Nat) :
    createVector s d count align =
      emitFront (setMinAlign s (max align 4)) (le32 count ++ d ++ zeros (frontPad s d.length (max align 4))) := by
  unfold createVector; simp only [setMinAlign_frontPad]

theorem createStruct_eq (s : BS) (d : List Nat) (align : Nat) :
    createStruct s d align = emitFront (setMinAlign s align) (d ++ zeros (frontPad s d.length align)) := by
  unfold createStruct; simp only [setMinAlign_frontPad]

theorem embedBuffer_eq (s : BS) (data : List Nat) (align blockAlign : Nat) (withSize : Bool) :
    embedBuffer s data align blockAlign withSize =
      let a := max (max align 4) (if blockAlign ≠ 0 then blockAlign else if s.blockAlign ≠ 0 then s.blockAlign else 1)
      let pad := frontPad s (data.length + (if withSize then 4 else 0)) a
      emitFront (setMinAlign s a) (le32 (data.length + pad) ++ data ++ zeros pad) := by
  unfold embedBuffer
  simp only [setMinAlign_frontPad]

theorem createVtable_front (s : BS) (vt : List Nat) (h : ¬ (s.nestId = 0 ∧ s.clustering)) :
    createVtable s vt =
      ((emitFront s (vt ++ zeros (frontPad s vt.length 2))).1, (emitFront s (vt ++ zeros (frontPad s vt.length 2))).2 + 1) := by
  unfold createVtable; rw [if_neg h]

theorem createVtable_back (s : BS) (vt : List Nat) (h : s.nestId = 0 ∧ s.clustering) : createVtable s vt = emitBack s vt := by
  unfold createVtable; rw [if_pos h]

theorem createVtable_vtCache (s : BS) (vt : List Nat) : (createVtable s vt).1.vtCache = s.vtCache := by
  unfold createVtable
  split <;> rfl

theorem createVtable_nestCount (s : BS) (vt : List Nat) : (createVtable s vt).1.nestCount = s.nestCount := by
  unfold createVtable
  split <;> rfl

theorem createCachedVtable_cases (s : BS) (vt : List Nat) (hash : Nat) :
    (∃ e ∈ s.vtCache, (e.bytes = vt ∧ e.nestId = s.nestId ∧ e.bucket = vtBucket hash) ∧
      createCachedVtable s vt hash = (s, e.ref)) ∨
    ((∀ e ∈ s.vtCache, ¬ (e.bytes = vt ∧ e.nestId = s.nestId ∧ e.bucket = vtBucket hash)) ∧
      createCachedVtable s vt hash =
        ({ (createVtable s vt).1 with vtCache := ⟨vt, vtBucket hash, s.nestId, (createVtable s vt).2⟩ :: s.vtCache },
         (createVtable s vt).2)) := by
  unfold createCachedVtable
  cases hf : s.vtCache.find? (fun e => e.bytes == vt && e.nestId == s.nestId && e.bucket == vtBucket hash) with
  | some e =>
    have hp := List.find?_some hf
    simp only [Bool.and_eq_true, beq_iff_eq, and_assoc] at hp
    exact Or.inl ⟨e, List.mem_of_find?_eq_some hf, hp, rfl⟩
  | none =>
    refine Or.inr ⟨fun e he hc => ?_, ?_⟩
    · have hn := List.find?_eq_none.mp hf e he
      simp only [Bool.and_eq_true, beq_iff_eq, and_assoc] at hn
      exact hn hc
    · simp only [createVtable_vtCache]

/-- Placement of every object emitted in front: the image ends with `size` payload bytes and their padding; the payload
starts `k` bytes into the image. -/
theorem emitFront_aligned (s : BS) (b : List Nat) (k size align : Nat) (h : 0 < align)
    (hl : b.length = k + size + frontPad s size align) : ((emitFront s b).2 + k) % (align : Int) = 0 := by
  have e : (emitFront s b).2 + k = s.emitStart - size - frontPad s size align := by
    -- by hand: omega is slow here
    rw [emitFront_ref, hl, Nat.add_assoc, Nat.add_comm k, Int.natCast_add, ← Int.sub_sub, Int.sub_add_cancel,
      Int.natCast_add, ← Int.sub_sub]
  rw [e]
  exact frontPad_spec s size align h

theorem createString_aligned (s : BS) (d : List Nat) : (createString s d).2 % 4 = 0 := by
  rw [createString_eq]
  exact emod_of_add_self (emitFront_aligned s _ 4 (d.length + 1) 4 (by decide)
    (by simp only [List.length_append, le32_length, zeros_length]; omega))

theorem createString_terminated (s : BS) (d : List Nat) :
    ((createString s d).1.front.drop (4 + d.length)).head? = some 0 := by
  rw [createString_eq, emitFront_front, List.append_assoc,
    List.drop_left' (by rw [List.length_append, le32_length] : (le32 d.length ++ d).length = 4 + d.length)]
  rfl

theorem createVector_aligned (s : BS) (d : List Nat) (count align : Nat) :
    ((createVector s d count align).2 + 4) % ((max align 4 : Nat) : Int) = 0 := by
  rw [createVector_eq]
  exact emitFront_aligned (setMinAlign s (max align 4)) _ 4 d.length (max align 4)
    (Nat.lt_of_lt_of_le (by decide) (Nat.le_max_right ..))
    (by simp only [List.length_append, le32_length, zeros_length, setMinAlign_frontPad])

section OffsetVector
open Flatcc.Props.C03

theorem ovElems_length (base : Int) (refs : List Int) : (ovElems base refs).length = refs.length := by
  simp [ovElems]

theorem ovElems_all4 (base : Int) (refs : List Int) : ∀ x ∈ ovElems base refs, x.length = 4 := by
  intro x hx
  simp only [ovElems, List.mem_map] at hx
  obtain ⟨⟨r, i⟩, _, he⟩ := hx
  subst he
  simp only
  split <;> rfl

theorem ovElems_get (base : Int) (refs : List Int) (i : Nat) (hi : i < refs.length) :
    (ovElems base refs)[i]'(by rw [ovElems_length]; exact hi) =
      if refs[i] = 0 then le32 0 else le32 (u32 (refs[i] - (base + (4 + 4 * i : Nat)))) := by
  simp only [ovElems, List.getElem_map, List.getElem_zipIdx, Nat.zero_add]
  -- `r - base - 4 i - 4` is `r - (base + (4 + 4 i))`
  rw [Int.sub_sub, Int.sub_sub, Nat.add_comm]
  rfl

/-- the bytes `_create_offset_vector_direct` emits (count field, offset elements, padding), in address order -/
def ovImage (s : BS) (refs : List Int) : List Nat :=
  le32 refs.length ++ (ovElems (ovBase s refs) refs).flatten ++ zeros (frontPad s (4 * refs.length) 4)

theorem createOffsetVector_image (s : BS) (refs : List Int) :
    createOffsetVector s refs = emitFront (setMinAlign s 4) (ovImage s refs) := by
  unfold createOffsetVector ovImage ovElems ovBase
  simp only [setMinAlign_frontPad, setMinAlign_start]

theorem ovImage_length (s : BS) (refs : List Int) :
    (ovImage s refs).length = 4 + 4 * refs.length + frontPad (setMinAlign s 4) (4 * refs.length) 4 := by
  simp only [ovImage, List.length_append, le32_length, zeros_length, flatten_length _ 4 (ovElems_all4 _ _), ovElems_length,
    setMinAlign_frontPad]

theorem createOffsetVector_ref (s : BS) (refs : List Int) : (createOffsetVector s refs).2 = ovBase s refs := by
  rw [createOffsetVector_image, emitFront_ref, setMinAlign_start, ovImage_length, setMinAlign_frontPad]
  rfl

theorem ovBase_aligned (s : BS) (refs : List Int) : ovBase s refs % 4 = 0 := by
  have := emitFront_aligned (setMinAlign s 4) _ 4 (4 * refs.length) 4 (by omega) (ovImage_length s refs)
  rw [← createOffsetVector_image, createOffsetVector_ref] at this
  exact emod_of_add_self this

theorem ovBase_le (s : BS) (refs : List Int) : ovBase s refs + 4 + 4 * refs.length ≤ s.emitStart := by
  unfold ovBase; omega

end OffsetVector

end Flatcc.Builder
