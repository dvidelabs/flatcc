import FlatccModel.VerifierBasics
/-! What the verifier's non-recursive functions establish for the reader, and `Covers`: what a verifier run behind an offset
establishes for the reads behind that offset. -/
namespace Flatcc.Verifier

/-- the identifier test at the end of both header checks -/
theorem identifier_ok_iff {c : Ctx} {idHash i : Nat} :
    (if idHash = 0 then (pure () : V Unit) else rd32 c i >>= fun id => guard' (decide (id = idHash))) = .ok () ↔
      idHash = 0 ∨ i + 4 ≤ c.n ∧ r32 c i = idHash := by
  by_cases hz : idHash = 0
  · rw [if_pos hz]; exact ⟨fun _ => .inl hz, fun _ => rfl⟩
  · rw [if_neg hz]; simp only [accepts, hz, false_or]

theorem verifyHeader_ok_iff (c : Ctx) (idHash : Nat) :
    verifyHeader c idHash = .ok () ↔
      c.A % 4 = 0 ∧ c.n ≤ 4294967287 ∧ 8 ≤ c.n ∧ (idHash = 0 ∨ r32 c 4 = idHash) := by
  simp only [verifyHeader, accepts, identifier_ok_iff, Nat.reduceSub]
  constructor
  · rintro ⟨h1, h2, h3, h4⟩
    exact ⟨h1, h2, h3, h4.imp_right And.right⟩
  · rintro ⟨h1, h2, h3, h4⟩
    exact ⟨h1, h2, h3, h4.imp_right fun h => ⟨h3, h⟩⟩

theorem verifyHeaderWithSize_ok {c : Ctx} {idHash n' : Nat} (h : verifyHeaderWithSize c idHash = .ok n') :
    c.A % 4 = 0 ∧ c.n ≤ 4294967287 ∧ n' = r32 c 0 + 4 ∧ n' ≤ c.n ∧ (idHash = 0 ∨ r32 c 8 = idHash) := by
  simp only [verifyHeaderWithSize, accepts, identifier_ok_iff] at h
  obtain ⟨g1, g2, g3, _, g5, g6, rfl⟩ := h
  exact ⟨g1, g2, rfl, Nat.add_le_of_le_sub (Nat.le_trans (by decide) g3) g5, g6.imp_right And.right⟩

/-- `a4`, `size`: what the header check of every verify entry point (root or nested) establishes about its buffer. NO alignment of
the address beyond 4 is assumed: every wider alignment is checked by the verifier on absolute addresses. `m4`, `mpow` are carried
along: `M`, a power of two ≥ 4, bounds the alignments the schema uses. -/
structure Placed (c : Ctx) (M : Nat) : Prop where
  m4 : 4 ∣ M
  mpow : M ∣ 4294967296
  a4 : c.A % 4 = 0
  size : c.n ≤ 4294967287

theorem Placed.pow {c M} (P : Placed c M) {a} (h : a ∣ M) : a ∣ 4294967296 := Nat.dvd_trans h P.mpow

theorem Placed.lt {c M} (P : Placed c M) {x} (h : x ≤ c.n) : x < 4294967296 :=
  Nat.lt_of_le_of_lt (Nat.le_trans h P.size) (by decide)

theorem Placed.w32_eq {c M} (P : Placed c M) {x} (h : x ≤ c.n) : w32 x = x := Nat.mod_eq_of_lt (P.lt h)

theorem Placed.sub32_eq {c M} (P : Placed c M) {x} (h : x ≤ c.n) : sub32 c.n x = c.n - x := by
  unfold sub32
  rw [Nat.add_comm, Nat.add_sub_assoc h, Nat.add_mod_left]
  exact Nat.mod_eq_of_lt (Nat.lt_of_le_of_lt (Nat.sub_le _ _) (P.lt (Nat.le_refl _)))

theorem Placed.header {c M} (P : Placed c M) {b o : Nat} (hb : b < 4294967296) (ho : o < 4294967296)
    (h : checkHeader c.n b o = true) :
    w32 (b + o) = b + o ∧ w32 (b + o + 4) = b + o + 4 ∧ sub32 c.n (b + o + 4) = c.n - (b + o + 4) ∧
    b + o + 4 ≤ c.n ∧ (b + o) % 4 = 0 := by
  unfold checkHeader at h
  simp only [accepts] at h
  -- `base + offset` has not wrapped: the sum is above `base`
  have hw := w32_add_of_le hb ho (Nat.le_of_lt h.1.1)
  rw [hw] at h
  exact ⟨hw, P.w32_eq h.1.2, P.sub32_eq h.1.2, h.1.2, h.2⟩

theorem verifyHeader_placed {c : Ctx} {M id : Nat} (hm4 : 4 ∣ M) (hmp : M ∣ 4294967296)
    (h : verifyHeader c id = .ok ()) : Placed c M :=
  have ⟨a4, size, _⟩ := (verifyHeader_ok_iff c id).mp h
  ⟨hm4, hmp, a4, size⟩

/-- for `a ∣ 4` alignment relative to the buffer start is alignment of the address, since `4 ∣ c.A` -/
theorem safe_rel {c : Ctx} {M a addr len : Nat} (P : Placed c M) (ha : a ∣ 4)
    (h1 : addr + len ≤ c.n) (h2 : addr % a = 0) : Safe c ⟨addr, len, a⟩ :=
  ⟨h1, Nat.mod_eq_zero_of_dvd (Nat.dvd_add (Nat.dvd_trans ha (Nat.dvd_of_mod_eq_zero P.a4)) (Nat.dvd_of_mod_eq_zero h2))⟩

theorem safe4 {c : Ctx} {M addr : Nat} (P : Placed c M) (h1 : addr + 4 ≤ c.n) (h2 : addr % 4 = 0) :
    Safe c ⟨addr, 4, 4⟩ := safe_rel P (Nat.dvd_refl 4) h1 h2

theorem safe1 {c : Ctx} {addr len : Nat} (h1 : addr + len ≤ c.n) : Safe c ⟨addr, len, 1⟩ :=
  ⟨h1, Nat.mod_one _⟩

theorem safe_shift {c : Ctx} {s len : Nat} (hr : s + len ≤ c.n) {a : Access} (h : Safe (sub c s len) a) :
    Safe c (shiftAcc s a) := by
  have h1 : s + (a.addr + a.len) ≤ c.n := Nat.le_trans (Nat.add_le_add_left h.1 s) hr
  have h2 : (c.A + s + a.addr) % a.align = 0 := h.2
  rw [← Nat.add_assoc] at h1
  rw [Nat.add_assoc] at h2
  exact ⟨h1, h2⟩

/-- every read of the list is safe; proved along the way the reader model builds the list -/
def AllSafe (c : Ctx) (l : List Access) : Prop := ∀ a ∈ l, Safe c a

section
variable {c : Ctx} {a : Access} {l l' : List Access}
theorem AllSafe.nil : AllSafe c [] := fun _ h => nomatch h
theorem AllSafe.cons (h : Safe c a) (hl : AllSafe c l) : AllSafe c (a :: l) := List.forall_mem_cons.mpr ⟨h, hl⟩
theorem AllSafe.append (h : AllSafe c l) (h' : AllSafe c l') : AllSafe c (l ++ l') :=
  fun a ha => (List.mem_append.mp ha).elim (h a) (h' a)
theorem AllSafe.shift {s len : Nat} (hr : s + len ≤ c.n) (h : AllSafe (sub c s len) l) : AllSafe c (l.map (shiftAcc s)) :=
  List.forall_mem_map.mpr fun a ha => safe_shift hr (h a ha)
end

theorem verifyStruct_safe {c : Ctx} {M : Nat} (P : Placed c M) {e b o size align : Nat}
    (he : e ≤ c.n) (hsize : size < 4294967296) (hal : align ∣ M)
    (h : verifyStruct c e b o size align = .ok ()) : Safe c ⟨b + o, size, align⟩ := by
  simp only [verifyStruct, accepts] at h
  obtain ⟨g1, g2, g3, g4⟩ := h
  -- the first test: `base ≤ end` and `offset ≤ end - base`
  have hbo : b + o ≤ c.n := Nat.le_trans (Nat.add_le_of_le_sub' (Nat.le_of_not_gt g1.1.2) (Nat.le_of_not_gt g1.2)) he
  rw [P.w32_eq hbo, abs_mod (P.pow hal)] at g4
  -- `base + offset + size` has not wrapped: the verifier tested that the sum is not below `base + offset`
  rw [w32_add_of_le (P.lt hbo) hsize g2] at g3
  exact ⟨Nat.le_trans g3 he, g4⟩

theorem verifyVector_ok {c : Ctx} {M : Nat} (P : Placed c M) {b o esz align maxc n : Nat}
    (hb : b < 4294967296) (ho : o < 4294967296) (hal : align ∣ M) (hmax : maxc * esz < 4294967296)
    (h : verifyVector c b o esz align maxc = .ok n) :
    w32 (b + o) = b + o ∧ w32 (b + o + 4) = b + o + 4 ∧
    n = r32 c (b + o) ∧ b + o + 4 + n * esz ≤ c.n ∧ (b + o) % 4 = 0 ∧ AllSafe c (vectorAcc c (b + o) esz align) := by
  simp only [verifyVector, accepts] at h
  obtain ⟨h1, _, g3, g4, g5, hn⟩ := h
  obtain ⟨w0, w4, ws, hin, h4⟩ := P.header hb ho h1
  simp only [w0, w4, ws] at g3 g4 g5 hn
  subst hn
  -- `n * elem_size` does not wrap because `n ≤ max_count`
  rw [show w32 (r32 c (b + o) * esz) = r32 c (b + o) * esz from
    Nat.mod_eq_of_lt (Nat.lt_of_le_of_lt (Nat.mul_le_mul_right _ g4) hmax)] at g5
  have hrange : b + o + 4 + r32 c (b + o) * esz ≤ c.n := Nat.add_le_of_le_sub' hin g5
  refine ⟨w0, w4, rfl, hrange, h4, .cons (safe4 P hin h4) (.cons ?_ .nil)⟩
  by_cases hz : r32 c (b + o) = 0
  · rw [if_pos hz, hz, Nat.zero_mul]
    exact safe1 hin
  · rw [if_neg hz] at g3 ⊢
    exact ⟨hrange, by rw [← abs_mod (P.pow hal)]; exact g3.1⟩

/-- `K` checks what the reader reads behind an offset: accepted at slot `b` holding `o` ⇒ the reads `acc (b + o)` are safe -/
def Covers (c : Ctx) (K : Nat → Nat → V Unit) (acc : Nat → List Access) : Prop :=
  ∀ b o, b < 4294967296 → o < 4294967296 → K b o = .ok () → AllSafe c (acc (b + o))

theorem Covers.mono {c : Ctx} {K acc acc'} (hK : Covers c K acc) (hs : ∀ p a, a ∈ acc' p → a ∈ acc p) : Covers c K acc' :=
  fun b o hb ho h a ha => hK b o hb ho h a (hs _ a ha)

theorem covers_guard {c : Ctx} {K acc} (g : Bool) (hK : Covers c K acc) :
    Covers c (fun b o => guard' g >>= fun _ => K b o) acc :=
  fun b o hb ho h => hK b o hb ho (unit_bind_ok.mp h).2

theorem covers_string {c : Ctx} {M : Nat} (P : Placed c M) : Covers c (verifyString c) (stringAcc c) := by
  intro b o hb ho h
  simp only [verifyString, accepts] at h
  obtain ⟨h1, _, g3, _⟩ := h
  obtain ⟨w0, w4, ws, hin, h4⟩ := P.header hb ho h1
  rw [w0, w4, ws] at g3
  exact .cons (safe4 P hin h4) (.cons (safe1 (Nat.add_le_of_le_sub' hin g3)) .nil)

theorem covers_vector {c : Ctx} {M : Nat} (P : Placed c M) {esz align maxc : Nat} (hal : align ∣ M)
    (hmax : maxc * esz < 4294967296) (k : Nat → Nat → Nat → V Unit) :
    Covers c (fun b o => verifyVector c b o esz align maxc >>= k b o) (fun p => vectorAcc c p esz align) := by
  intro b o hb ho h
  obtain ⟨n, hv, _⟩ := bind_ok h
  exact (verifyVector_ok P hb ho hal hmax hv).2.2.2.2.2

/-- `L`, `E`: any pair with the recurrences of the loops of `verify_string_vector` / `verify_table_vector` and of `*_vec_at` -/
theorem offsetLoop_safe {c : Ctx} {M : Nat} (P : Placed c M) {K acc} (hK : Covers c K acc)
    {L : Nat → Nat → V Unit} {E : Nat → Nat → List Access}
    (hL : ∀ cnt base, L (cnt + 1) base = rd32 c base >>= fun o => K base o >>= fun _ => L cnt (w32 (base + 4)))
    (hE0 : ∀ e, E 0 e = [])
    (hE : ∀ cnt e, E (cnt + 1) e = (⟨e, 4, 4⟩ :: acc (e + r32 c e)) ++ E cnt (e + 4)) :
    ∀ cnt base, base % 4 = 0 → base + cnt * 4 ≤ c.n → L cnt base = .ok () → AllSafe c (E cnt base) := by
  intro cnt
  induction cnt with
  | zero => intro base _ _ _; rw [hE0]; exact .nil
  | succ cnt ih =>
    intro base h4 hr h
    rw [Nat.succ_mul, Nat.add_comm (cnt * 4), ← Nat.add_assoc] at hr  -- `hr : base + 4 + cnt * 4 ≤ c.n`
    have hin : base + 4 ≤ c.n := Nat.le_of_add_right_le hr
    rw [hL, rd32_bind_ok, unit_bind_ok, P.w32_eq hin] at h
    rw [hE]
    exact .append (.cons (safe4 P hin h4) (hK _ _ (P.lt (Nat.le_of_add_right_le hin)) (r32_lt _ _) h.2.1))
      (ih (base + 4) (by rw [Nat.add_mod_right]; exact h4) hr h.2.2)

theorem covers_offsetVector {c : Ctx} {M : Nat} (P : Placed c M) {L : Nat → Nat → V Unit} {E : Nat → Nat → List Access}
    (hL : ∀ cnt base, base % 4 = 0 → base + cnt * 4 ≤ c.n → L cnt base = .ok () → AllSafe c (E cnt base)) :
    Covers c (fun b o => verifyVector c b o 4 4 1073741823 >>= fun n => L n (w32 (w32 (b + o) + 4)))
      (fun p => ⟨p, 4, 4⟩ :: E (r32 c p) (p + 4)) := by
  intro b o hb ho h
  obtain ⟨n, hv, h⟩ := bind_ok h
  obtain ⟨w0, w4, hn, hrange, h4, _⟩ := verifyVector_ok P hb ho P.m4 (by decide) hv
  rw [w0, w4] at h
  subst hn
  exact .cons (safe4 P (Nat.le_trans (Nat.le_add_right _ _) hrange) h4)
    (hL _ _ (by rw [Nat.add_mod_right]; exact h4) hrange h)

theorem covers_stringVector {c : Ctx} {M : Nat} (P : Placed c M) :
    Covers c (verifyStringVector c) (fun p => ⟨p, 4, 4⟩ :: stringElemsAcc c (r32 c p) (p + 4)) :=
  covers_offsetVector P <|
    offsetLoop_safe P (covers_string P) (fun _ _ => rfl) (fun _ => by rw [stringElemsAcc]) (fun _ _ => by rw [stringElemsAcc])

/-- a `[ubyte]` field read as a buffer of its own: `N` runs on the nested bytes `[s, s + len)`, whose reads are `E s len` -/
theorem covers_nested {c : Ctx} {M : Nat} (P : Placed c M) {align : Nat} (hal : align ∣ M)
    {N : Nat → Nat → V Unit} {E : Nat → Nat → List Access}
    (hN : ∀ s len, s + len ≤ c.n → N s len = .ok () → AllSafe c (E s len)) :
    Covers c (fun b o => verifyVector c b o 1 align 4294967295 >>= fun len => N (w32 (w32 (b + o) + 4)) len)
      (fun p => vectorAcc c p 1 1 ++ E (p + 4) (r32 c p)) := by
  intro b o hb ho h
  obtain ⟨len, hv, h⟩ := bind_ok h
  obtain ⟨w0, w4, hn, hrange, h4, _⟩ := verifyVector_ok P hb ho hal (by decide) hv
  rw [w0, w4] at h
  rw [Nat.mul_one] at hrange
  subst hn
  refine .append (.cons (safe4 P (Nat.le_of_add_right_le hrange) h4) (.cons ?_ .nil)) (hN _ _ hrange h)
  rw [ite_self, Nat.mul_one]
  exact safe1 hrange

/-- struct roots: the struct lies inside the buffer and is aligned at its address -/
theorem structRoot_safe {c : Ctx} {M : Nat} (hm4 : 4 ∣ M) (hmp : M ∣ 4294967296) {idHash size align : Nat}
    (hal : align ∣ M) (hsize : size < 4294967296) (h : verifyStructAsRoot c idHash size align = .ok ()) :
    Safe c ⟨0, 4, 4⟩ ∧ Safe c ⟨r32 c 0, size, align⟩ := by
  rw [verifyStructAsRoot, unit_bind_ok, rd32_bind_ok] at h
  have P := verifyHeader_placed hm4 hmp h.1
  have := verifyStruct_safe P (Nat.le_refl _) hsize hal h.2.2
  rw [Nat.zero_add] at this
  exact ⟨safe4 P h.2.1 (by decide), this⟩

/-- a nested struct root is a struct root of the cut-out buffer `sub c s len` (`h` is `verifyStructAsRoot` there, unfolded) -/
theorem nestedStruct_safe {c : Ctx} {M : Nat} (P : Placed c M) {size align : Nat} (hal : align ∣ M) (hsize : size < 4294967296)
    (s len : Nat) (hr : s + len ≤ c.n)
    (h : (verifyHeader (sub c s len) 0 >>= fun _ => rd32 (sub c s len) 0 >>= fun ro =>
            verifyStruct (sub c s len) len 0 ro size align) = .ok ()) :
    AllSafe c [⟨s, 4, 4⟩, ⟨s + r32 c s, size, align⟩] := by
  have ⟨h4, hs⟩ := structRoot_safe (c := sub c s len) (idHash := 0) P.m4 P.mpow hal hsize h
  have hs := safe_shift hr hs
  rw [r32_sub, Nat.add_zero] at hs
  exact .cons (safe_shift hr h4) (.cons hs .nil)

end Flatcc.Verifier
