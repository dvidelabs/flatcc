import FlatccModel.Generated.Consts
/-!
# `flatcc_builder_default_alloc`: the growth policy of the builder's internal buffers

`len` is `iov_len` of one buffer; the function returns the new `iov_len` (the content is not modelled).
-/
namespace Flatcc.Alloc

/-- `while (n < request) n *= 2;` — `fuel` bounds the loop; `request` steps suffice for n ≥ 1 -/
def growTo : Nat → Nat → Nat → Nat
  | 0, n, _ => n
  | fuel + 1, n, request => if n < request then growTo fuel (2 * n) request else n

/-- the default size per buffer kind (`hint`) -/
def base (hint request : Nat) : Nat :=
  if hint = Flatcc.Consts.allocDs then 256
  else if hint = Flatcc.Consts.allocHt then request
  else if hint = Flatcc.Consts.allocFs then Flatcc.Consts.builderFrameSize * 8
  else if hint = Flatcc.Consts.allocUs then 64
  else 32

/-- new `iov_len` after `default_alloc(b, request, _, hint)` when `realloc` succeeds -/
def defaultAlloc (len request hint : Nat) : Nat :=
  if request = 0 then 0
  else
    let n := growTo request (base hint request) request
    if request ≤ len ∧ n ≤ len / 2 then len else n

end Flatcc.Alloc
