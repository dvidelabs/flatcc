import FlatccModel.Alloc
/-! # The default allocator never returns less than asked and never more than max(what was there, default size, 2 × request) -/
namespace Flatcc.Alloc

theorem growTo_spec (fuel n request : Nat) (hn : 1 ≤ n) (hf : request ≤ fuel + n) :
    request ≤ growTo fuel n request ∧ (growTo fuel n request = n ∨ growTo fuel n request < 2 * request) := by
  induction fuel generalizing n with
  | zero => exact ⟨Nat.zero_add n ▸ hf, Or.inl rfl⟩
  | succ f ih =>
    unfold growTo
    split
    · next h =>
      have hf' : request ≤ f + 2 * n := by
        rw [Nat.two_mul, ← Nat.add_assoc]
        exact Nat.le_trans hf (Nat.add_le_add_right (Nat.add_le_add_left hn f) n)
      obtain ⟨a, b⟩ := ih (2 * n) (Nat.mul_pos Nat.two_pos hn) hf'
      refine ⟨a, Or.inr ?_⟩
      rcases b with b | b
      · rw [b]
        exact Nat.mul_lt_mul_of_pos_left h Nat.two_pos
      · exact b
    · next h => exact ⟨Nat.le_of_not_lt h, Or.inl rfl⟩

theorem base_cases (P : Nat → Prop) (hint request : Nat) (h1 : P 256) (h2 : P request)
    (h3 : P (Flatcc.Consts.builderFrameSize * 8)) (h4 : P 64) (h5 : P 32) : P (base hint request) := by
  unfold base
  by_cases c1 : hint = Flatcc.Consts.allocDs
  · rw [if_pos c1]; exact h1
  rw [if_neg c1]
  by_cases c2 : hint = Flatcc.Consts.allocHt
  · rw [if_pos c2]; exact h2
  rw [if_neg c2]
  by_cases c3 : hint = Flatcc.Consts.allocFs
  · rw [if_pos c3]; exact h3
  rw [if_neg c3]
  by_cases c4 : hint = Flatcc.Consts.allocUs
  · rw [if_pos c4]; exact h4
  rw [if_neg c4]; exact h5

theorem base_pos (hint request : Nat) (h : 1 ≤ request) : 1 ≤ base hint request :=
  base_cases (1 ≤ ·) hint request (by decide) h (by decide) (by decide) (by decide)

theorem base_le (hint request : Nat) : base hint request ≤ max request (max 256 (Flatcc.Consts.builderFrameSize * 8)) :=
  have h256 : 256 ≤ max request (max 256 (Flatcc.Consts.builderFrameSize * 8)) :=
    Nat.le_trans (Nat.le_max_left _ _) (Nat.le_max_right _ _)
  base_cases (· ≤ _) hint request h256 (Nat.le_max_left _ _)
    (Nat.le_trans (Nat.le_max_right _ _) (Nat.le_max_right _ _)) (Nat.le_trans (by decide) h256) (Nat.le_trans (by decide) h256)

theorem defaultAlloc_bounds (len request hint C : Nat) (h : 1 ≤ request) (hb : base hint request ≤ C) (h2 : 2 * request ≤ C) :
    request ≤ defaultAlloc len request hint ∧ defaultAlloc len request hint ≤ max len C := by
  unfold defaultAlloc
  rw [if_neg (Nat.ne_of_gt h)]
  obtain ⟨g1, g2⟩ := growTo_spec request _ request (base_pos hint request h) (Nat.le_add_right _ _)
  simp only []
  split
  · next hc => exact ⟨hc.1, Nat.le_max_left _ _⟩
  · refine ⟨g1, Nat.le_trans ?_ (Nat.le_max_right _ _)⟩
    rcases g2 with g2 | g2
    · rw [g2]
      exact hb
    · exact Nat.le_of_lt (Nat.lt_of_lt_of_le g2 h2)

theorem foldl_le_max {α} (f : Nat → α → Nat) (C : Nat) (l : List α) (n : Nat) (h : ∀ x ∈ l, ∀ n, f n x ≤ max n C) :
    l.foldl f n ≤ max n C := by
  induction l generalizing n with
  | nil => exact Nat.le_max_left _ _
  | cons x xs ih =>
    have hstep : max (f n x) C ≤ max n C := Nat.max_le.2 ⟨h x List.mem_cons_self n, Nat.le_max_right _ _⟩
    exact Nat.le_trans (ih (f n x) fun y hy => h y (List.mem_cons_of_mem _ hy)) hstep

end Flatcc.Alloc
