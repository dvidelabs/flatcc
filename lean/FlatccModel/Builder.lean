import FlatccModel.Generated.Consts
/-!
# Builder (`src/runtime/builder.c`): emit layer (L0) and the table frame (L1), over a value tree (L2)

The emitted stream lives in a virtual address space: front bytes at `[emitStart, 0)` (growing
downward), back bytes at `[0, emitEnd)` (clustered vtables, end padding).  Every `create_*`
function is modelled with the padding arithmetic of the C code (`front_pad`, `back_pad`), the
reference it returns, and the bytes of its iov in address order.  The table frame
(`start_table` / `table_add` / `table_add_offset` / `end_table`) is modelled by the field list in
call order (`layoutTable`).  `build` drives these from a value tree in creation order.
-/
namespace Flatcc.Builder

def le16 (x : Nat) : List Nat := [x % 256, x / 256 % 256]
def le32 (x : Nat) : List Nat := [x % 256, x / 256 % 256, x / 65536 % 256, x / 16777216 % 256]
/-- a (possibly negative) 32-bit quantity as `uoffset_t` bits -/
def u32 (x : Int) : Nat := (x % 4294967296).toNat
def zeros (n : Nat) : List Nat := List.replicate n 0

/-- `FLATCC_BUILDER_UPDATE_VT_HASH` (multiplicative variant) -/
def vtHashUpdate (h id off : Nat) : Nat :=
  ((((id ^^^ h) % 4294967296) * 2654435761 % 4294967296) ^^^ off) % 4294967296 * 2654435761 % 4294967296
/-- `FLATCC_BUILDER_BUCKET_VT_HASH(hash, ht_width)`; the table has `FLATCC_BUILDER_MIN_HASH_COUNT` slots and never resizes -/
def vtBucket (h : Nat) : Nat := h / 2 ^ (32 - Nat.log2 Flatcc.Consts.builderMinHashCount)

structure VtEntry where
  bytes : List Nat
  bucket : Nat
  nestId : Nat
  ref : Int
  deriving Repr

structure BS where
  front : List Nat := []
  back : List Nat := []
  minAlign : Nat := 0
  blockAlign : Nat := 0
  nestId : Nat := 0
  nestCount : Nat := 0
  bufferMark : Int := 0
  withSize : Bool := false
  clustering : Bool := true
  vtCache : List VtEntry := []
  refs : Array Int := #[]          -- references of created objects, in creation order
  emits : List (Int × Nat) := []   -- (offset, length) of every emit call, newest first
  deriving Repr

def BS.emitStart (s : BS) : Int := -(s.front.length : Int)
def BS.emitEnd (s : BS) : Int := (s.back.length : Int)

/-- `front_pad(B, size, align)` -/
def frontPad (s : BS) (size align : Nat) : Nat := ((s.emitStart - size) % (align : Int)).toNat
/-- `back_pad(B, align)` -/
def backPad (s : BS) (align : Nat) : Nat := (s.emitEnd % (align : Int)).toNat

/-- `emit_front`: bytes in address order; returns the new state and the reference (= new emit start) -/
def emitFront (s : BS) (bytes : List Nat) : BS × Int :=
  let s' := { s with front := bytes ++ s.front, emits := (-((bytes.length + s.front.length : Nat) : Int), bytes.length) :: s.emits }
  (s', s'.emitStart)

/-- `emit_back`: returns reference + 1 -/
def emitBack (s : BS) (bytes : List Nat) : BS × Int :=
  ({ s with back := s.back ++ bytes, emits := (s.emitEnd, bytes.length) :: s.emits }, s.emitEnd + 1)

def setMinAlign (s : BS) (a : Nat) : BS := if s.minAlign < a then { s with minAlign := a } else s

def remember (s : BS) (r : Int) : BS := { s with refs := s.refs.push r }

/-- `flatcc_builder_create_string(B, s, len)` -/
def createString (s : BS) (data : List Nat) : BS × Int :=
  let pad := frontPad s (data.length + 1) 4 + 1
  emitFront s (le32 data.length ++ data ++ zeros pad)

/-- `flatcc_builder_create_vector(B, data, count, elem_size, align, max_count)` -/
def createVector (s : BS) (data : List Nat) (count align : Nat) : BS × Int :=
  let align := max align 4
  let s := setMinAlign s align
  let pad := frontPad s data.length align
  emitFront s (le32 count ++ data ++ zeros pad)

/-- `_create_offset_vector_direct`: `refs[i] = 0` is a null element (union vectors) -/
def createOffsetVector (s : BS) (refs : List Int) : BS × Int :=
  let s := setMinAlign s 4
  let size := 4 * refs.length
  let pad := frontPad s size 4
  let base : Int := s.emitStart - (4 + size + pad : Nat)
  let elems := (refs.zipIdx.map (fun (r, i) => if r = 0 then le32 0 else le32 (u32 (r - base - (4 * i : Nat) - 4)))).flatten
  emitFront s (le32 refs.length ++ elems ++ zeros pad)

/-- `flatcc_builder_create_struct(B, data, size, align)` -/
def createStruct (s : BS) (data : List Nat) (align : Nat) : BS × Int :=
  let s := setMinAlign s align
  let pad := frontPad s data.length align
  emitFront s (data ++ zeros pad)

/-- `flatcc_builder_create_vtable`: clustered at the back for the top-level buffer, else in front; ref + 1 -/
def createVtable (s : BS) (vt : List Nat) : BS × Int :=
  if s.nestId = 0 ∧ s.clustering then emitBack s vt
  else let (s', r) := emitFront s (vt ++ zeros (frontPad s vt.length 2)); (s', r + 1)

/-- `flatcc_builder_create_cached_vtable`: reuse a vtable already emitted within the same buffer. Only the hash
bucket of `hash` is searched, and the hash covers (id, size) of the add calls, so byte-identical vtables reached
with different field sizes can be emitted twice. -/
def createCachedVtable (s : BS) (vt : List Nat) (hash : Nat) : BS × Int :=
  match s.vtCache.find? (fun e => e.bytes == vt && e.nestId == s.nestId && e.bucket == vtBucket hash) with
  | some e => (s, e.ref)
  | none =>
    let (s', r) := createVtable s vt
    ({ s' with vtCache := { bytes := vt, bucket := vtBucket hash, nestId := s.nestId, ref := r } :: s'.vtCache }, r)

/-- one `table_add` / `table_add_offset` call: inline bytes, or a reference to patch -/
inductive FieldVal
  | inl (size align : Nat) (bytes : List Nat)
  | off (ref : Int)
  deriving Repr

structure TableLayout where
  data : List Nat            -- the data stack content (table body without the vtable offset field)
  vs : List (Nat × Nat)      -- (id, vtable entry)
  offsets : List (Nat × Int) -- (position in data, reference) of offset fields
  align : Nat
  idEnd : Nat
  hash : Nat
  deriving Repr

def alignUp (x a : Nat) : Nat := (x + a - 1) / a * a

/-- one `table_add` (inline: zero-initialised space of `size` bytes aligned to `align`, then the caller's bytes)
or `table_add_offset` call -/
def layoutStep (t : TableLayout) (f : Nat × FieldVal) : TableLayout :=
  match f.2 with
  | .inl size align bytes =>
    let off := alignUp t.data.length align
    { t with data := t.data ++ zeros (off - t.data.length) ++ (bytes ++ zeros (size - bytes.length)).take size,
             vs := t.vs ++ [(f.1, off + 4)], align := max t.align align, idEnd := max t.idEnd (f.1 + 1),
             hash := vtHashUpdate t.hash f.1 size }
  | .off r =>
    let off := alignUp t.data.length 4
    { t with data := t.data ++ zeros (off - t.data.length) ++ le32 0,
             vs := t.vs ++ [(f.1, off + 4)], offsets := t.offsets ++ [(off, r)], idEnd := max t.idEnd (f.1 + 1),
             hash := vtHashUpdate t.hash f.1 4 }

def layoutInit : TableLayout :=
  { data := [], vs := [], offsets := [], align := 4, idEnd := 0, hash := Flatcc.Consts.vtHashInit }

/-- the table frame: fields in call order -/
def layoutTable (fields : List (Nat × FieldVal)) : TableLayout := fields.foldl layoutStep layoutInit

def vtableBytes (t : TableLayout) : List Nat :=
  le16 (2 * (t.idEnd + 2)) ++ le16 (t.data.length + 4) ++
    ((List.range t.idEnd).map (fun id => le16 (match t.vs.find? (fun e => e.1 == id) with | some e => e.2 | none => 0))).flatten

def patchAt (data : List Nat) (pos : Nat) (v : List Nat) : List Nat := data.take pos ++ v ++ data.drop (pos + v.length)

/-- the value `create_table` stores in an offset field at data position `pos` for the reference `r` -/
def patchVal (base : Int) (pos : Nat) (r : Int) : List Nat := le32 (u32 (r - base - pos - 4))
def patchAll (base : Int) (data : List Nat) (offs : List (Nat × Int)) : List Nat :=
  offs.foldl (fun d o => patchAt d o.1 (patchVal base o.1 o.2)) data

/-- `flatcc_builder_create_table(B, data, size, align, offsets, count, vt_ref)` -/
def createTable (s : BS) (t : TableLayout) (vtRef : Int) : BS × Int :=
  let align := max t.align 4
  let s := setMinAlign s align
  let size := t.data.length
  let pad := frontPad s size align
  let base : Int := s.emitStart - (pad + size + 4 : Nat)
  let vtOffset := u32 (base - (vtRef - 1))
  let data := patchAll base t.data t.offsets
  emitFront s (le32 vtOffset ++ data ++ zeros pad)

/-- `flatcc_builder_end_table` -/
def endTable (s : BS) (fields : List (Nat × FieldVal)) : BS × Int :=
  let t := layoutTable fields
  let (s, vtRef) := createCachedVtable s (vtableBytes t) (vtHashUpdate t.hash (2 * (t.idEnd + 2)) (t.data.length + 4))
  createTable s t vtRef

/-- the alignment `create_buffer` settles on: content, offset size, block alignment (`align_buffer_end`) -/
def bufAlign (s : BS) (align : Nat) : Nat := max (max align 4) (if s.blockAlign = 0 then 1 else s.blockAlign)

/-- `align_buffer_end` (only a top-level buffer pads the back) followed by `set_min_align` -/
def bufPrep (s : BS) (align : Nat) (nested : Bool) : BS :=
  let s := if nested then s else
    let endPad := backPad s align
    if endPad = 0 then s else (emitBack s (zeros endPad)).1
  setMinAlign s align

/-- the header `create_buffer` emits in front of everything: [size] root-offset [identifier] padding -/
def bufHeader (s : BS) (ident : List Nat) (rootRef : Int) (align : Nat) (nested : Bool) : List Nat :=
  let idOut := if ident.length = 4 ∧ ident ≠ [0, 0, 0, 0] then ident else []
  let sized := nested || s.withSize
  let headerPad := frontPad s (4 + idOut.length + (if s.withSize then 4 else 0)) align
  let len := (if sized then 4 else 0) + 4 + idOut.length + headerPad
  let bufferBase : Int := s.emitStart - (len : Nat) + (if sized then 4 else 0)
  let bufferSize := if nested then u32 (s.bufferMark - bufferBase) else u32 (s.emitEnd - bufferBase)
  (if sized then le32 bufferSize else []) ++ le32 (u32 (rootRef - bufferBase)) ++ idOut ++ zeros headerPad

/-- `flatcc_builder_create_buffer` -/
def createBuffer (s : BS) (ident : List Nat) (rootRef : Int) (align : Nat) (nested : Bool) : BS × Int :=
  let s1 := bufPrep s (bufAlign s align) nested
  emitFront s1 (bufHeader s1 ident rootRef (bufAlign s align) nested)

/-- `flatcc_builder_embed_buffer` called while a buffer frame is open (`B->level > 0`: inside the top-level buffer or a
nested one): the bytes become a nested buffer, wrapped in a ubyte vector -/
def embedBuffer (s : BS) (data : List Nat) (align blockAlign : Nat) (withSize : Bool) : BS × Int :=
  let blockAlign := if blockAlign ≠ 0 then blockAlign else if s.blockAlign ≠ 0 then s.blockAlign else 1
  let align := max (max align 4) blockAlign
  let s := setMinAlign s align
  let pad := frontPad s (data.length + (if withSize then 4 else 0)) align
  emitFront s (le32 (data.length + pad) ++ data ++ zeros pad)

/-- `flatcc_builder_start_buffer`: the parent's settings are saved in the frame (here: by the caller keeping the old
state); `is_top_buffer` is tested on the parent, so a buffer nested directly in the top-level buffer keeps the alignment
the parent has derived so far (over-aligned, still valid). `nest_id = nest_count++`. -/
def startBuffer (s : BS) (blockAlign : Nat) (withSize : Bool) : BS :=
  { s with minAlign := (if s.nestId ≠ 0 ∨ s.minAlign = 0 then 1 else s.minAlign), blockAlign := blockAlign, withSize := withSize,
           bufferMark := s.emitStart, nestId := s.nestCount, nestCount := s.nestCount + 1 }

/-- `flatcc_builder_end_buffer`: header, then the parent's settings are restored and `exit_frame` raises the parent's
min_align to this buffer's -/
def endBuffer (saved s : BS) (ident : List Nat) (rootRef : Int) : BS × Int :=
  let s := setMinAlign s s.blockAlign
  let (s3, r) := createBuffer s ident rootRef s.minAlign (s.nestId ≠ 0)
  ({ s3 with minAlign := max s3.minAlign saved.minAlign, blockAlign := saved.blockAlign, withSize := saved.withSize,
             bufferMark := saved.bufferMark, nestId := saved.nestId }, r)

/-! ## value trees (L2) -/

inductive Val
  | inl (size align : Nat) (bytes : List Nat)
  | str (bytes : List Nat)
  | vec (esz align : Nat) (bytes : List Nat)
  | ovec (items : List Val)
  | tab (fields : List (Nat × Val))
  | struct (align : Nat) (bytes : List Nat)        -- a separately created struct (union member)
  | ref (k : Nat)                                   -- the k-th created object again (shared)
  | null                                            -- null element of a union vector
  | nested (ident : List Nat) (withSize : Bool) (blockAlign : Nat) (root : Val)
  | union (type : Nat) (value : Val)                -- table field pair: value at id, type at id - 1
  | uvec (items : List (Nat × Val))                 -- table field pair: type vector at id - 1, value vector at id
  | embed (withSize : Bool) (blockAlign align : Nat) (bytes : List Nat)   -- flatcc_builder_embed_buffer
  deriving Repr, Inhabited

mutual
/-- create the children of a table (in field order) and collect the `table_add*` calls of its frame -/
partial def buildFields (s : BS) (fields : List (Nat × Val)) : BS × List (Nat × FieldVal) :=
  fields.foldl (fun (acc : BS × List (Nat × FieldVal)) f =>
      match f.2 with
      | .inl size align bytes => (acc.1, acc.2 ++ [(f.1, FieldVal.inl size align bytes)])
      | .union t v =>
        let (s, r) := buildVal acc.1 v
        (s, acc.2 ++ (if r = 0 then [] else [(f.1, FieldVal.off r)]) ++ [(f.1 - 1, FieldVal.inl 1 1 [t % 256])])
      | .uvec items =>
        let (s, refs) := items.foldl (fun (a : BS × List Int) it => let (s, r) := buildVal a.1 it.2; (s, a.2 ++ [r])) (acc.1, [])
        let (s, vr) := createOffsetVector s refs
        let (s, tr) := createVector s (items.map (fun it => it.1 % 256)) items.length 1
        (s, acc.2 ++ [(f.1 - 1, FieldVal.off tr), (f.1, FieldVal.off vr)])
      | v => let (s, r) := buildVal acc.1 v; (s, acc.2 ++ [(f.1, FieldVal.off r)])) (s, [])

/-- create the object for `v` (children first, in field / element order); returns its reference -/
partial def buildVal (s : BS) (v : Val) : BS × Int :=
  match v with
  | .inl _ _ _ => (s, 0)
  | .null => (s, 0)
  | .ref k => (s, s.refs.getD k 0)
  | .str b => let (s, r) := createString s b; (remember s r, r)
  | .vec esz align b => let (s, r) := createVector s b (if esz = 0 then 0 else b.length / esz) align; (remember s r, r)
  | .struct align b => let (s, r) := createStruct s b align; (remember s r, r)
  | .ovec items =>
    let (s, refs) := items.foldl (fun (acc : BS × List Int) it => let (s, r) := buildVal acc.1 it; (s, acc.2 ++ [r])) (s, [])
    let (s, r) := createOffsetVector s refs
    (remember s r, r)
  | .union _ v => buildVal s v
  | .uvec _ => (s, 0)
  | .embed withSize blockAlign align b => let (s, r) := embedBuffer s b align blockAlign withSize; (remember s r, r)
  | .tab fields =>
    let (s, fvs) := buildFields s fields
    let (s, r) := endTable s fvs
    (remember s r, r)
  | .nested ident withSize blockAlign root =>
    let s1 := startBuffer s blockAlign withSize
    let (s2, rootRef) := buildVal s1 root
    let (s3, r) := endBuffer s s2 ident rootRef
    (remember s3 r, r)
end

structure Config where
  ident : List Nat := []
  withSize : Bool := false
  blockAlign : Nat := 0
  clustering : Bool := true
  /-- the root table's children are created before `start_buffer` (allowed at the top level: the `X_create_as_root(B, child, ..)` pattern) -/
  pre : Bool := false
  deriving Repr

/-- a builder after `flatcc_builder_init` -/
def initBS : BS := { clustering := true }

/-- `flatcc_builder_custom_reset` (+ `flatcc_emitter_reset` for the emitted stream): every per-build field is cleared;
the settings (vtable clustering; cache limit and max level are not part of `BS`) stay -/
def resetBS (s : BS) : BS :=
  { s with front := [], back := [], minAlign := 0, blockAlign := 0, nestId := 0, nestCount := 0, bufferMark := 0,
           withSize := false, vtCache := [], refs := #[], emits := [] }

/-- the root table's fields, when `cfg.pre` asks for them to be created before `start_buffer` -/
def preFields (cfg : Config) (root : Val) : Option (List (Nat × Val)) :=
  match cfg.pre, root with
  | true, .tab fields => some fields
  | _, _ => none

/-- `start_buffer … end_buffer` around a root object on a builder in state `s` -/
def buildFrom (s : BS) (cfg : Config) (root : Val) : List Nat × Nat × List (Int × Nat) :=
  let sc := { s with clustering := cfg.clustering }
  match preFields cfg root with
  | some fields =>
    let (sp, fvs) := buildFields sc fields
    let s0 := startBuffer sp cfg.blockAlign cfg.withSize
    let (s1, rootRef) := endTable s0 fvs
    let (s2, _) := endBuffer sp (remember s1 rootRef) cfg.ident rootRef
    (s2.front ++ s2.back, s2.minAlign, s2.emits.reverse)
  | none =>
    let s0 := startBuffer sc cfg.blockAlign cfg.withSize
    let (s1, rootRef) := buildVal s0 root
    let (s2, _) := endBuffer s s1 cfg.ident rootRef
    (s2.front ++ s2.back, s2.minAlign, s2.emits.reverse)

/-- a build on a freshly initialised builder: the finished bytes in address order, the reported alignment, the emit calls -/
def build (cfg : Config) (root : Val) : List Nat × Nat × List (Int × Nat) := buildFrom initBS cfg root

end Flatcc.Builder
