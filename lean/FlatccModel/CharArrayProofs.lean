import FlatccModel.CharArray
import FlatccModel.JsonProofs
/-!
# `flatcc_json_parser_char_array`: memory safety of the destination, content, print/parse round trip

For EVERY input text, array size `N` and flag combination. One invariant (`SInv`) ties the destination to the accumulator
of the string scanner of `Json.lean`. Under it every store fits the array (`write_fits`), so the checked and the unchecked
variant do the same, round by round what the scanner does, and the call answers `specResult` of what the scanner found.
-/
namespace Flatcc.CharArray
open Flatcc.Json

variable {N : Nat} {f : Flags} {st : St} {acc s rest text : List Nat} {e : Err}

theorem zeros_length (n : Nat) : (zeros n).length = n := List.length_replicate

theorem memcpy_length (src : List Nat) (k : Nat) : (memcpy src k).length = k := by
  induction k generalizing src with
  | zero => cases src <;> simp [memcpy]
  | succ k ih => cases src <;> simp [memcpy, ih]

theorem memcpy_eq_take (src : List Nat) (k : Nat) (h : k ≤ src.length) : memcpy src k = src.take k := by
  induction k generalizing src with
  | zero => cases src <;> simp [memcpy]
  | succ k ih =>
    cases src with
    | nil => simp at h
    | cons c r => simp only [memcpy, List.take_succ_cons]; rw [ih r (by simpa using h)]

theorem memcpy_self (src : List Nat) : memcpy src src.length = src := by
  rw [memcpy_eq_take _ _ (Nat.le_refl _), List.take_length]

theorem runLen_le (buf : List Nat) : runLen buf ≤ buf.length := by
  induction buf with
  | nil => exact Nat.le_refl _
  | cons c r ih =>
    simp only [runLen]
    split
    · exact Nat.succ_le_succ ih
    · exact Nat.zero_le _

/-- `string_part` stops at the quote, a control character or the backslash -/
theorem runLen_stop (buf : List Nat) (c : Nat) (r : List Nat) (h : buf.drop (runLen buf) = c :: r) :
    c = 34 ∨ c < 32 ∨ c = 92 := by
  induction buf with
  | nil => simp at h
  | cons d t ih =>
    simp only [runLen] at h
    split at h
    · exact ih h
    · rename_i hp
      simp only [List.drop_zero, List.cons.injEq] at h
      simpa only [plain, h.1, Bool.and_eq_true, bne_iff_ne, decide_eq_true_eq, Classical.not_and_iff_not_or_not,
        Classical.not_not, Nat.not_le, or_assoc] using hp

theorem pb_run (buf acc : List Nat) : pb buf acc = pb (buf.drop (runLen buf)) (acc ++ buf.take (runLen buf)) := by
  induction buf generalizing acc with
  | nil => simp [runLen]
  | cons c r ih =>
    simp only [runLen]
    split
    · rename_i hp
      simp only [plain, Bool.and_eq_true, bne_iff_ne, decide_eq_true_eq] at hp
      rw [pb_cons, if_neg hp.1.1, if_neg (Nat.not_lt.2 hp.1.2), if_neg hp.2, ih]
      simp
    · simp

/-- the error classes a caller can get; the two internal ones are excluded, `overflow` / `underflow` only come with the
flag values that enable them -/
def Genuine (f : Flags) : Err → Prop
  | .overflow => f.skipOverflow = false
  | .underflow => f.rejectUnderflow = true
  | .writeOutside => False
  | .outOfFuel => False
  | _ => True

/-- the destination against the scanner's accumulator: it holds the first `N` bytes of `acc`, `n` is what is left, and
without `skip_array_overflow` nothing has been dropped -/
structure SInv (N : Nat) (f : Flags) (st : St) (acc : List Nat) : Prop where
  written : st.written = acc.take N
  room : st.room = N - acc.length
  fits : f.skipOverflow = false → acc.length ≤ N

/-- the C variable `n` is exactly what is left of the array -/
theorem SInv.total (hi : SInv N f st acc) : st.written.length + st.room = N := by
  rw [hi.written, hi.room, List.length_take, Nat.add_comm, Nat.sub_add_min_cancel]

theorem write_fits (chk : Bool) (bytes : List Nat) (hi : SInv N f st acc) (hb : bytes.length ≤ st.room) :
    write chk N st bytes = .ok ⟨st.written ++ bytes, st.room - bytes.length⟩ := by
  have hle : st.written.length + bytes.length ≤ N := hi.total ▸ Nat.add_le_add_left hb _
  simp [write, Nat.not_lt.2 hb, Nat.not_lt.2 hle]

/-- **No single copy exceeds the remaining room**: `copy` stores `min k n` bytes, or fails with `array_overflow` (only
without `skip_array_overflow`) -/
theorem copy_eq (chk : Bool) (N : Nat) (f : Flags) (st : St) (mark : List Nat) (k : Nat) :
    copy chk N f st mark k =
      if k > st.room ∧ f.skipOverflow = false then .error .overflow else write chk N st (memcpy mark (min k st.room)) := by
  unfold copy
  by_cases hk : k > st.room
  · rw [if_pos hk, Nat.min_eq_right (Nat.le_of_lt hk)]; cases f.skipOverflow <;> simp [hk]
  · rw [if_neg hk, if_neg (fun h => hk h.1), Nat.min_eq_left (Nat.le_of_not_gt hk)]

theorem SInv.append (hi : SInv N f st acc) (p : List Nat) (hf : f.skipOverflow = false → (acc ++ p).length ≤ N) :
    SInv N f ⟨st.written ++ p.take st.room, st.room - (p.take st.room).length⟩ (acc ++ p) where
  written := by rw [hi.written, hi.room, List.take_append]
  room := by
    show st.room - (p.take st.room).length = N - (acc ++ p).length
    rw [List.length_take, List.length_append, hi.room, Nat.sub_add_eq, ← Nat.sub_eq_sub_min]
  fits := hf

theorem copy_spec (mark : List Nat) (k : Nat) (hi : SInv N f st acc) (hk : k ≤ mark.length) :
    ((∀ chk, copy chk N f st mark k = .error .overflow) ∧ f.skipOverflow = false ∧ (acc ++ mark.take k).length > N)
    ∨ ∃ st', (∀ chk, copy chk N f st mark k = .ok st') ∧ SInv N f st' (acc ++ mark.take k) := by
  have hlen : (acc ++ mark.take k).length = acc.length + k := by
    rw [List.length_append, List.length_take, Nat.min_eq_left hk]
  by_cases h : k > st.room ∧ f.skipOverflow = false
  · have hk' : N - acc.length < k := hi.room ▸ h.1
    have hgt : acc.length + k > N := (Nat.sub_lt_iff_lt_add' (hi.fits h.2)).1 hk'
    exact .inl ⟨fun chk => by rw [copy_eq, if_pos h], h.2, hlen ▸ hgt⟩
  · have hb : (memcpy mark (min k st.room)).length ≤ st.room := by rw [memcpy_length]; exact Nat.min_le_right ..
    refine .inr ⟨_, fun chk => ?_, hi.append (mark.take k) fun hs => ?_⟩
    · rw [copy_eq, if_neg h, write_fits chk _ hi hb, memcpy_eq_take _ _ (Nat.le_trans (Nat.min_le_left ..) hk),
        Nat.min_comm, ← List.take_take]
    · have hk' : k ≤ N - acc.length := hi.room ▸ Nat.le_of_not_gt fun g => h ⟨g, hs⟩
      rw [hlen]
      exact Nat.add_le_of_le_sub' (hi.fits hs) hk'

theorem finish_eq (chk : Bool) (pending : Option Err) (buf : List Nat) (hi : SInv N f st acc) :
    finish chk N f pending st buf =
      if acc.length < N ∧ f.rejectUnderflow = true then .error (setErr pending .underflow)
      else stringEnd pending ⟨acc.take N ++ zeros (N - acc.length), 0⟩ buf := by
  have hro := hi.room
  have hlt : st.room ≠ 0 ↔ acc.length < N := by rw [hro]; exact Nat.sub_ne_zero_iff_lt
  unfold finish
  rw [write_fits chk _ hi (Nat.le_of_eq (zeros_length _)), zeros_length, Nat.sub_self, hi.written]
  by_cases hr : st.room ≠ 0
  · rw [if_pos hr, hro]
    cases f.rejectUnderflow with
    | true => rw [if_pos rfl, if_pos ⟨hlt.1 hr, rfl⟩]
    | false => rw [if_neg Bool.false_ne_true, if_neg fun h => Bool.false_ne_true h.2]
  · have h0 : N - acc.length = 0 := hro ▸ Decidable.not_not.1 hr
    rw [if_neg hr, if_neg fun h => hr (hlt.2 h.1), h0]
    unfold stringEnd
    rw [hi.written, zeros, List.replicate_zero, List.append_nil]

theorem finish_spec (chk : Bool) (rest : List Nat) (hi : SInv N f st acc) :
    finish chk N f none st (34 :: rest) = specResult N f acc rest := by
  have hov : ¬ (acc.length > N ∧ f.skipOverflow = false) := fun h => Nat.not_lt.2 (hi.fits h.2) h.1
  rw [finish_eq chk none _ hi, specResult, if_neg hov]
  rfl

/-- how a call may fail: with an error a caller can get, and what a silent end (`Err.silentEnd`) left behind is inside
the array -/
def Allowed (N : Nat) (f : Flags) : Err → Prop
  | .silentEnd w => w.length ≤ N
  | e => Genuine f e

theorem Allowed.genuine (h : Allowed N f e) : Genuine f e := by
  cases e <;> first | exact h | trivial

/-- `r` is the answer the specification gives for the scanner outcome `o` -/
def Agrees (N : Nat) (f : Flags) (o : Option (List Nat × List Nat)) (r : Res) : Prop :=
  match o with
  | some (s, rest) => r = specResult N f s rest
  | none => ∃ e, r = .error e ∧ Allowed N f e

/-- a piece that does not fit: whatever the scanner finds behind it, the content is longer than the array -/
theorem agrees_overflow {o : Option (List Nat × List Nat)} {m : Nat} (hs : f.skipOverflow = false)
    (hm : m > N) (hle : ∀ s rest, o = some (s, rest) → m ≤ s.length) : Agrees N f o (.error .overflow) := by
  unfold Agrees
  cases o with
  | none => exact ⟨_, rfl, hs⟩
  | some p =>
    have hlen : p.1.length > N := Nat.lt_of_lt_of_le hm (hle p.1 p.2 rfl)
    show .error .overflow = specResult N f p.1 p.2
    exact (if_pos ⟨hlen, hs⟩).symm

/-- what a round of the loop has to establish -/
def StepOk (N : Nat) (f : Flags) (o : Option (List Nat × List Nat)) : Step → Prop
  | .done r => Agrees N f o r
  | .more buf' st' => ∃ acc', SInv N f st' acc' ∧ o = pb buf' acc'

/-- the checked and the unchecked variant give the same `x0`, and `P x0` -/
def Both {α : Type} (P : α → Prop) (x : Bool → α) : Prop := ∃ x0, (∀ chk, x chk = x0) ∧ P x0

theorem Both.const {α : Type} {P : α → Prop} {x0 : α} (h : P x0) : Both P (fun _ => x0) := ⟨x0, fun _ => rfl, h⟩

theorem afterEscape_spec (esc : Option (List Nat × List Nat)) (hi : SInv N f st acc) :
    Both (StepOk N f (match esc with | some (code, r') => pb r' (acc ++ code) | none => none))
      (fun chk => afterEscape chk N f st esc) := by
  unfold afterEscape
  cases esc with
  | none => exact .const ⟨_, rfl, trivial⟩
  | some p =>
    obtain ⟨code, buf2⟩ := p
    simp only []
    split
    · rename_i he
      rw [List.isEmpty_iff.1 he]
      exact .const ⟨_, rfl, Nat.le.intro hi.total⟩
    · have hc := copy_spec code code.length hi (Nat.le_refl _)
      rw [List.take_length] at hc
      rcases hc with ⟨h, hs, hgt⟩ | ⟨st2, h, hi2⟩
      · simp only [h]
        exact .const (agrees_overflow hs hgt fun _ _ e => parseBody_length e)
      · simp only [h]
        exact .const ⟨_, hi2, rfl⟩

theorem afterPart_spec (buf : List Nat) (hi : SInv N f st acc) :
    Both (StepOk N f (pb buf acc)) (fun chk => afterPart chk N f st buf (runLen buf)) := by
  rw [pb_run]
  unfold afterPart
  cases hd : buf.drop (runLen buf) with
  | nil => exact .const ⟨_, rfl, trivial⟩                         -- `string_part`: end of input
  | cons c r1 =>
    have hstop := runLen_stop buf c r1 hd
    by_cases hc : c < 32
    · simp only [if_pos hc]                                       -- `string_part`: control character
      rw [pb_cons, if_neg (by omega), if_pos hc]; exact .const ⟨_, rfl, trivial⟩
    · simp only [if_neg hc]
      rcases copy_spec buf (runLen buf) hi (runLen_le buf) with ⟨h, hs, hgt⟩ | ⟨st1, h, hi1⟩
      · simp only [h]                                             -- the run does not fit: `array_overflow`
        exact .const (agrees_overflow hs hgt fun _ _ e => parseBody_length e)
      · simp only [h]
        by_cases h34 : c = 34
        · subst h34                                               -- closing quote: `break`, then the function's tail
          rw [pb_cons, if_pos rfl]
          exact ⟨_, fun chk => congrArg Step.done (finish_spec chk r1 hi1), rfl⟩
        · have h92 : c = 92 := (hstop.resolve_left h34).resolve_left hc  -- backslash: `string_escape`
          rw [pb_cons, if_neg h34, if_neg hc, if_pos h92]
          simp only [if_neg h34, if_pos h92]
          exact afterEscape_spec (decodeEscape r1) hi1

theorem step_spec (buf : List Nat) (hi : SInv N f st acc) :
    Both (StepOk N f (pb buf acc)) (fun chk => step chk N f buf st) := by
  unfold step
  cases buf with
  | nil => exact .const ⟨_, rfl, trivial⟩
  | cons c r =>
    simp only []
    split
    · rename_i h34
      subst h34
      rw [pb_cons, if_pos rfl]
      exact ⟨_, fun chk => congrArg Step.done (finish_spec chk r hi), rfl⟩
    · exact afterPart_spec (c :: r) hi

/-! ## progress: every round consumes input, so the fuel `length + 1` is never what ends the loop -/

/-- a round that goes on does so on fewer than `n` bytes, and not at the end of the input -/
def Step.Below (n : Nat) : Step → Prop
  | .done _ => True
  | .more buf' _ => buf' ≠ [] ∧ buf'.length < n

theorem afterEscape_below (chk : Bool) (N : Nat) (f : Flags) (st : St) (r1 : List Nat) (n : Nat) (hn : r1.length ≤ n) :
    (afterEscape chk N f st (decodeEscape r1)).Below n := by
  unfold afterEscape
  cases hd : decodeEscape r1 with
  | none => trivial
  | some p =>
    obtain ⟨code, buf2⟩ := p
    simp only []
    split
    · trivial
    · rename_i hne
      cases copy chk N f st code code.length with
      | error e => trivial
      | ok st2 => exact ⟨by simpa using hne, Nat.lt_of_lt_of_le (decodeEscape_shorter r1 code buf2 hd) hn⟩

theorem afterPart_below (chk : Bool) (N : Nat) (f : Flags) (st : St) (mark : List Nat) (k : Nat) :
    (afterPart chk N f st mark k).Below mark.length := by
  unfold afterPart
  cases hd : mark.drop k with
  | nil => trivial                                                -- end of input
  | cons c r1 =>
    have hl : r1.length + 1 ≤ mark.length := by
      have := (List.drop_suffix k mark).length_le
      rwa [hd] at this
    simp only []
    by_cases hc : c < 32
    · rw [if_pos hc]; trivial                                     -- control character
    · rw [if_neg hc]
      cases copy chk N f st mark k with
      | error e => trivial                                        -- `array_overflow`
      | ok st1 =>
        simp only []
        by_cases h34 : c = 34
        · rw [if_pos h34]; trivial                                -- closing quote
        · rw [if_neg h34]
          by_cases h92 : c = 92
          · rw [if_pos h92]
            -- backslash: the round may go on, behind the escape
            exact afterEscape_below chk N f st1 r1 mark.length (Nat.le_of_succ_le hl)
          · rw [if_neg h92]; trivial                              -- any other byte

theorem step_below (chk : Bool) (N : Nat) (f : Flags) (buf : List Nat) (st : St) :
    (step chk N f buf st).Below buf.length := by
  unfold step
  cases buf with
  | nil => trivial
  | cons c r =>
    simp only []
    split
    · trivial
    · exact afterPart_below chk N f st (c :: r) _

theorem step_more_lt (chk : Bool) (N : Nat) (f : Flags) (buf : List Nat) (st : St) (buf' : List Nat) (st' : St)
    (h : step chk N f buf st = .more buf' st') : buf'.length < buf.length := by
  have := step_below chk N f buf st
  rw [h] at this; exact this.2

/-- the loop condition `*buf != '"'` never dereferences `end`: the loop is only re-entered on non-empty input -/
theorem step_more_nonempty (chk : Bool) (N : Nat) (f : Flags) (buf : List Nat) (st : St) (buf' : List Nat) (st' : St)
    (h : step chk N f buf st = .more buf' st') : buf' ≠ [] := by
  have := step_below chk N f buf st
  rw [h] at this; exact this.1

theorem loop_fuel (chk : Bool) (N : Nat) (f : Flags) (fuel1 fuel2 : Nat) (buf : List Nat) (st : St)
    (h1 : buf.length < fuel1) (h2 : buf.length < fuel2) : loop chk N f fuel1 buf st = loop chk N f fuel2 buf st := by
  induction fuel1 generalizing fuel2 buf st with
  | zero => cases h1
  | succ n ih =>
    cases fuel2 with
    | zero => cases h2
    | succ m =>
      simp only [loop]
      cases hs : step chk N f buf st with
      | done r => rfl
      | more buf' st' =>
        have hlt := step_more_lt chk N f buf st buf' st' hs
        exact ih m buf' st' (Nat.lt_of_lt_of_le hlt (Nat.le_of_lt_succ h1))
          (Nat.lt_of_lt_of_le hlt (Nat.le_of_lt_succ h2))

theorem loop_fuel_enough (chk : Bool) (N : Nat) (f : Flags) (buf : List Nat) (st : St) (extra : Nat) :
    loop chk N f (buf.length + 1 + extra) buf st = loop chk N f (buf.length + 1) buf st :=
  loop_fuel chk N f _ _ buf st (Nat.lt_add_right _ (Nat.lt_succ_self _)) (Nat.lt_succ_self _)

theorem loop_spec (fuel : Nat) (buf : List Nat) (hf : buf.length < fuel) (hi : SInv N f st acc) :
    Both (Agrees N f (pb buf acc)) (fun chk => loop chk N f fuel buf st) := by
  induction fuel generalizing buf st acc with
  | zero => cases hf
  | succ n ih =>
    obtain ⟨s0, hs0, hs⟩ := step_spec buf hi
    simp only [loop, hs0]
    cases s0 with
    | done r => exact .const hs
    | more buf' st' =>
      obtain ⟨acc', hi', he⟩ := hs
      have hlt := step_more_lt false N f buf st buf' st' (hs0 false)
      rw [he]
      exact ih buf' (Nat.lt_of_lt_of_le hlt (Nat.le_of_lt_succ hf)) hi'

/-- the tail of the function when the loop is not entered: no text, no opening quote (`pending` is the error of
`string_start`), or the quote is the last byte -/
theorem finish_end (pending : Option Err) (hp : Allowed N f (pending.getD .unterminated)) (hi : SInv N f st acc) :
    Both (Agrees N f none) (fun chk => finish chk N f pending st []) := by
  simp only [finish_eq _ pending [] hi]
  refine .const ?_
  cases pending with
  | some e => split <;> exact ⟨_, rfl, hp⟩                     -- the first error is the one reported
  | none =>
    split
    · rename_i h; exact ⟨_, rfl, h.2⟩                           -- the underflow error comes first
    · exact ⟨_, rfl, trivial⟩                                   -- `string_end` finds no closing quote

theorem run_agrees (N : Nat) (f : Flags) (text : List Nat) :
    Both (Agrees N f (parseString text)) (fun chk => run chk N f text) := by
  have h0 : SInv N f ⟨[], N⟩ [] := ⟨by simp, by simp, fun _ => Nat.zero_le N⟩
  unfold run
  cases text with
  | nil => exact finish_end _ trivial h0
  | cons c r =>
    simp only []
    by_cases h34 : c = 34
    · subst h34
      simp only [if_true]
      cases r with
      | nil => exact finish_end none trivial h0
      | cons d t => exact loop_spec _ (d :: t) (by simp) h0
    · simp only [if_neg h34, parseString_no_quote c r h34]
      exact finish_end _ trivial h0

theorem charArray_agrees (N : Nat) (f : Flags) (text : List Nat) : Agrees N f (parseString text) (charArray N f text) := by
  obtain ⟨r0, h, ha⟩ := run_agrees N f text
  have h' : charArray N f text = r0 := h false
  rw [h']; exact ha

theorem charArrayG_eq (N : Nat) (f : Flags) (text : List Nat) : charArrayG N f text = charArray N f text := by
  obtain ⟨r0, h, _⟩ := run_agrees N f text
  exact (h true).trans (h false).symm

theorem specResult_overflow (rest : List Nat) (hl : s.length > N) (hs : f.skipOverflow = false) :
    specResult N f s rest = .error .overflow := if_pos ⟨hl, hs⟩

theorem specResult_underflow (rest : List Nat) (hl : s.length < N) (hu : f.rejectUnderflow = true) :
    specResult N f s rest = .error .underflow := by
  unfold specResult
  rw [if_neg (fun h => Nat.lt_asymm hl h.1), if_pos ⟨hl, hu⟩]

theorem specResult_ok (rest : List Nat) (h1 : s.length ≤ N ∨ f.skipOverflow = true) (h2 : N ≤ s.length ∨ f.rejectUnderflow = false) :
    specResult N f s rest = .ok (s.take N ++ zeros (N - s.length), rest) := by
  have h1' : ¬ (s.length > N ∧ f.skipOverflow = false) :=
    Decidable.not_and_iff_not_or_not.2 (h1.imp Nat.not_lt.2 ne_false_of_eq_true)
  have h2' : ¬ (s.length < N ∧ f.rejectUnderflow = true) :=
    Decidable.not_and_iff_not_or_not.2 (h2.imp Nat.not_lt.2 ne_true_of_eq_false)
  rw [specResult, if_neg h1', if_neg h2']

theorem specResult_cases (N : Nat) (f : Flags) (s rest : List Nat) :
    specResult N f s rest = .error .overflow ∧ f.skipOverflow = false
    ∨ specResult N f s rest = .error .underflow ∧ f.rejectUnderflow = true
    ∨ specResult N f s rest = .ok (s.take N ++ zeros (N - s.length), rest)
      ∧ (s.length ≤ N ∨ f.skipOverflow = true) ∧ (N ≤ s.length ∨ f.rejectUnderflow = false) := by
  unfold specResult
  by_cases h1 : s.length > N ∧ f.skipOverflow = false
  · exact .inl ⟨if_pos h1, h1.2⟩
  rw [if_neg h1]
  by_cases h2 : s.length < N ∧ f.rejectUnderflow = true
  · exact .inr (.inl ⟨if_pos h2, h2.2⟩)
  rw [if_neg h2]
  refine .inr (.inr ⟨rfl, ?_, ?_⟩)
  · exact (Decidable.not_and_iff_not_or_not.1 h1).imp Nat.le_of_not_lt eq_true_of_ne_false
  · exact (Decidable.not_and_iff_not_or_not.1 h2).imp Nat.le_of_not_lt eq_false_of_ne_true

/-- the cut at `N` bytes may fall inside a run or inside the bytes of one escape, e.g. in the middle of a UTF-8 sequence -/
theorem charArray_spec (N : Nat) (f : Flags) (text s rest : List Nat) (h : parseString text = some (s, rest)) :
    charArray N f text = specResult N f s rest := by
  have := charArray_agrees N f text
  rw [h] at this; exact this

theorem charArray_ok_or_allowed (N : Nat) (f : Flags) (text : List Nat) :
    (∃ s rest, parseString text = some (s, rest) ∧ (s.length ≤ N ∨ f.skipOverflow = true)
        ∧ (N ≤ s.length ∨ f.rejectUnderflow = false)
        ∧ charArray N f text = .ok (s.take N ++ zeros (N - s.length), rest))
    ∨ ∃ e, charArray N f text = .error e ∧ Allowed N f e := by
  have ha := charArray_agrees N f text
  cases hp : parseString text with
  | none => rw [hp] at ha; exact .inr ha
  | some p =>
    obtain ⟨s, rest⟩ := p
    rw [hp, Agrees] at ha
    rcases specResult_cases N f s rest with ⟨h', hf⟩ | ⟨h', hf⟩ | ⟨h', h1, h2⟩
    · exact .inr ⟨_, ha.trans h', hf⟩
    · exact .inr ⟨_, ha.trans h', hf⟩
    · exact .inl ⟨s, rest, rfl, h1, h2, ha.trans h'⟩

theorem charArray_error_allowed (h : charArray N f text = .error e) : Allowed N f e := by
  rcases charArray_ok_or_allowed N f text with ⟨_, _, _, _, _, hok⟩ | ⟨e', he, ha⟩
  · rw [hok] at h; cases h
  · rw [he] at h; cases h; exact ha

/-- a too long piece in front of the syntax error still gives `array_overflow` (when the flag allows it) -/
theorem charArray_spec_none (N : Nat) (f : Flags) (text : List Nat) (h : parseString text = none) :
    ∃ e, charArray N f text = .error e ∧ Genuine f e := by
  have := charArray_agrees N f text
  rw [h] at this
  obtain ⟨e, he, ha⟩ := this
  exact ⟨e, he, ha.genuine⟩

theorem charArray_ok_iff (N : Nat) (f : Flags) (text w rest : List Nat) :
    charArray N f text = .ok (w, rest) ↔
      ∃ s, parseString text = some (s, rest) ∧ (s.length ≤ N ∨ f.skipOverflow = true)
        ∧ (N ≤ s.length ∨ f.rejectUnderflow = false) ∧ w = s.take N ++ zeros (N - s.length) := by
  constructor
  · intro h
    rcases charArray_ok_or_allowed N f text with ⟨s, rest', hp, h1, h2, hok⟩ | ⟨_, he, _⟩
    · rw [hok] at h; cases h; exact ⟨s, hp, h1, h2, rfl⟩
    · rw [he] at h; cases h
  · rintro ⟨s, hp, h1, h2, hw⟩
    rw [charArray_spec N f text s rest hp, specResult_ok rest h1 h2, hw]

theorem charArray_content (N : Nat) (f : Flags) (text w rest : List Nat) (h : charArray N f text = .ok (w, rest)) :
    ∃ s, parseString text = some (s, rest) ∧ w = s.take N ++ zeros (N - s.length) := by
  obtain ⟨s, hp, _, _, hw⟩ := (charArray_ok_iff N f text w rest).1 h
  exact ⟨s, hp, hw⟩

/-- the model appends what each `memcpy` / `memset` stores, whatever its length: none went past the array and nothing of
it is left unset -/
theorem charArray_writes_exactly_N (N : Nat) (f : Flags) (text w rest : List Nat) (h : charArray N f text = .ok (w, rest)) :
    w.length = N := by
  obtain ⟨s, _, hw⟩ := charArray_content N f text w rest h
  rw [hw, List.length_append, List.length_take, zeros_length, Nat.add_comm, Nat.sub_add_min_cancel]

theorem charArray_fits (N : Nat) (f : Flags) (text s rest : List Nat) (hp : parseString text = some (s, rest))
    (hl : s.length ≤ N) (hu : f.rejectUnderflow = false ∨ s.length = N) :
    charArray N f text = .ok (s ++ zeros (N - s.length), rest) := by
  have h2 : N ≤ s.length ∨ f.rejectUnderflow = false := by
    rcases hu with hu | hu
    · exact .inr hu
    · exact .inl (Nat.le_of_eq hu.symm)
  rw [charArray_spec N f text s rest hp, specResult_ok rest (.inl hl) h2, List.take_of_length_le hl]

theorem charArray_overflow (N : Nat) (f : Flags) (text s rest : List Nat) (hp : parseString text = some (s, rest))
    (hl : s.length > N) (hs : f.skipOverflow = false) : charArray N f text = .error .overflow := by
  rw [charArray_spec N f text s rest hp, specResult_overflow rest hl hs]

theorem charArray_truncates (N : Nat) (f : Flags) (text s rest : List Nat) (hp : parseString text = some (s, rest))
    (hl : s.length > N) (hs : f.skipOverflow = true) : charArray N f text = .ok (s.take N, rest) := by
  rw [charArray_spec N f text s rest hp, specResult_ok rest (.inr hs) (.inl (Nat.le_of_lt hl)),
    Nat.sub_eq_zero_of_le (Nat.le_of_lt hl)]
  simp [zeros]

theorem charArray_underflow (N : Nat) (f : Flags) (text s rest : List Nat) (hp : parseString text = some (s, rest))
    (hl : s.length < N) (hu : f.rejectUnderflow = true) : charArray N f text = .error .underflow := by
  rw [charArray_spec N f text s rest hp, specResult_underflow rest hl hu]

theorem charArray_silent_bound (N : Nat) (f : Flags) (text w : List Nat)
    (h : charArray N f text = .error (.silentEnd w)) : w.length ≤ N :=
  charArray_error_allowed h

theorem charArrayG_never_outside (N : Nat) (f : Flags) (text : List Nat) : charArrayG N f text ≠ .error .writeOutside := by
  rw [charArrayG_eq]
  exact fun h => charArray_error_allowed h

theorem charArray_never_out_of_fuel (N : Nat) (f : Flags) (text : List Nat) : charArray N f text ≠ .error .outOfFuel :=
  fun h => charArray_error_allowed h

theorem stripZeros_length_le (a : List Nat) : (stripZeros a).length ≤ a.length := by
  induction a with
  | nil => exact Nat.le_refl _
  | cons c r ih =>
    simp only [stripZeros]
    split
    · exact Nat.zero_le _
    · exact Nat.succ_le_succ ih

theorem stripZeros_pad (a : List Nat) : stripZeros a ++ zeros (a.length - (stripZeros a).length) = a := by
  induction a with
  | nil => rfl
  | cons c r ih =>
    simp only [stripZeros]
    split
    · rename_i h
      rw [List.isEmpty_iff.1 h.2] at ih
      rw [h.1]
      exact congrArg (0 :: ·) ih
    · simp only [List.length_cons, List.cons_append]
      rw [Nat.add_sub_add_right, ih]

theorem stripZeros_eq_self_iff (a : List Nat) : stripZeros a = a ↔ a.getLast? ≠ some 0 := by
  induction a with
  | nil => simp [stripZeros]
  | cons c r ih =>
    cases r with
    | nil =>
      simp only [stripZeros, List.isEmpty_nil, and_true, List.getLast?_singleton]
      by_cases hc : c = 0 <;> simp [hc]
    | cons d t =>
      rw [List.getLast?_cons_cons, ← ih]
      have hu : stripZeros (c :: d :: t)
          = if c = 0 ∧ (stripZeros (d :: t)).isEmpty then [] else c :: stripZeros (d :: t) := rfl
      rw [hu]
      constructor
      · intro h
        split at h
        · cases h
        · simp only [List.cons.injEq, true_and] at h; exact h
      · intro h
        rw [h]; simp

theorem charArray_roundtrip (N : Nat) (f : Flags) (a rest : List Nat) (hN : a.length = N)
    (hu : f.rejectUnderflow = false ∨ stripZeros a = a) :
    charArray N f (printCharArray a ++ rest) = .ok (a, rest) := by
  have hp := parseString_printString (stripZeros a) rest
  have hl : (stripZeros a).length ≤ N := hN ▸ stripZeros_length_le a
  have h2 : f.rejectUnderflow = false ∨ (stripZeros a).length = N := hu.imp_right fun h => by rw [h, hN]
  rw [printCharArray, charArray_fits N f _ _ rest hp hl h2, ← hN, stripZeros_pad]

theorem charArray_roundtrip_rejects (N : Nat) (f : Flags) (a rest : List Nat) (hN : a.length = N)
    (hu : f.rejectUnderflow = true) (hz : stripZeros a ≠ a) :
    charArray N f (printCharArray a ++ rest) = .error .underflow := by
  have hp := parseString_printString (stripZeros a) rest
  have hlt : (stripZeros a).length < a.length := by
    refine Nat.lt_of_le_of_ne (stripZeros_length_le a) fun he => hz ?_
    have := stripZeros_pad a
    rwa [he, Nat.sub_self, zeros, List.replicate_zero, List.append_nil] at this
  exact charArray_underflow N f _ _ rest hp (hN ▸ hlt) hu

/-! The examples: every answer of `specResult` and the silent end occur; where the cut falls; why the round trip has a
hypothesis. -/

-- "ab\n" into [char:4]: padded
example : charArray 4 ⟨false, false⟩ [34, 97, 98, 92, 110, 34, 44] = .ok ([97, 98, 10, 0], [44]) := by decide
-- the same with reject_array_underflow
example : charArray 4 ⟨false, true⟩ [34, 97, 98, 92, 110, 34, 44] = .error .underflow := by decide
-- "a😀" (a + U+1F600 = 5 bytes) into [char:2]: overflow, or with skip_array_overflow a cut INSIDE the UTF-8 sequence
example : charArray 2 ⟨false, false⟩ [34, 97, 92, 117, 100, 56, 51, 100, 92, 117, 100, 101, 48, 48, 34] = .error .overflow := by decide
example : charArray 2 ⟨true, false⟩ [34, 97, 92, 117, 100, 56, 51, 100, 92, 117, 100, 101, 48, 48, 34] = .ok ([97, 0xf0], []) := by decide
-- once the room is 0 every later piece copies nothing; `[char:0]` accepts any string with skip_array_overflow
example : charArray 0 ⟨true, true⟩ [34, 97, 92, 110, 98, 34, 125] = .ok ([], [125]) := by decide
-- counterexample to an unconditional round trip: [65, 0] prints as "A" and is refused with reject_array_underflow
example : printCharArray [65, 0] = [34, 65, 34] := by decide
example : charArray 2 ⟨false, true⟩ (printCharArray [65, 0]) = .error .underflow := by decide
example : charArray 2 ⟨false, false⟩ (printCharArray [65, 0]) = .ok ([65, 0], []) := by decide
-- an embedded NUL survives (printed as \u0000)
example : charArray 3 ⟨false, true⟩ (printCharArray [0, 0, 7] ++ [44]) = .ok ([0, 0, 7], [44]) := by decide

/-- **Behaviour worth knowing (not a memory-safety issue).** When the input ends right behind a complete escape sequence, the C function
executes `if (buf == end) return end;` behind a *successful* `string_escape`: it returns `end` with NO error recorded,
the decoded escape not stored and the rest of the array neither filled nor zeroed. Here: `"ab\n` into `[char:4]` stores
`ab` only. A caller sees the same return value as for a string whose closing quote is the last byte of the input. -/
example : charArray 4 ⟨false, false⟩ [34, 97, 98, 92, 110] = .error (.silentEnd [97, 98]) := by decide

end Flatcc.CharArray
