import FlatccModel.Base64
/-!
# base64 (`pbase64.h`): round trip, sizes, and the decoder on arbitrary text

The round trip goes through the 6-bit digits: `Pair A T` says that a decode table inverts an alphabet, `decGo_two` …
`decGo_end` say what the decoder does with well-formed text digit by digit, `byte0_eq` … `byte2_eq` are the bit
arithmetic. What the decoder does with arbitrary text is one invariant, `Within`, proved along its recursion.
-/
namespace Flatcc.Base64

theorem dec_alpha_rfc : ∀ d : Fin 64, decRfc (alphaRfc d.val) = d.val := by decide +kernel
theorem dec_alpha_url : ∀ d : Fin 64, decUrl (alphaUrl d.val) = d.val := by decide +kernel

/-- what `print_uint8_vector_base64_object` may copy between quotes as is, and `flatcc_json_parser_string_part` runs
through to the closing quote: printable ASCII, not `"` (34), not `\` (92) -/
theorem alphabets_plain : ∀ b ∈ rfcAlphabet ++ urlAlphabet, b ≠ 34 ∧ b ≠ 92 ∧ 32 ≤ b ∧ b < 127 := by decide +kernel

/-- a digit made of the low bits of one byte and the high bits of the next is below `m * k` -/
theorem mod_mul_add_lt (a : Nat) {m k q : Nat} (hm : 0 < m) (h : q < k) : a % m * k + q < m * k :=
  calc a % m * k + q < (a % m + 1) * k := Nat.succ_mul .. ▸ Nat.add_lt_add_left h _
    _ ≤ m * k := Nat.mul_le_mul_right k (Nat.mod_lt a hm)

theorem digit1_lt (s0 : Nat) {q : Nat} (h : q < 16) : s0 % 4 * 16 + q < 64 := mod_mul_add_lt s0 (by decide) h
theorem digit2_lt (s1 : Nat) {q : Nat} (h : q < 4) : s1 % 16 * 4 + q < 64 := mod_mul_add_lt s1 (by decide) h
theorem digit1_tail_lt (s0 : Nat) : s0 % 4 * 16 < 64 := Nat.lt_of_add_right_lt (digit1_lt s0 (q := 0) (by decide))
theorem digit2_tail_lt (s1 : Nat) : s1 % 16 * 4 < 64 := Nat.lt_of_add_right_lt (digit2_lt s1 (q := 0) (by decide))

theorem high_bits (x : Nat) {q k : Nat} (h : q < k) : (x * k + q) / k = x := by
  rw [Nat.mul_comm, Nat.mul_add_div (Nat.zero_lt_of_lt h), Nat.div_eq_of_lt h, Nat.add_zero]

/-! What `base64_decode` makes of the digits `base64_encode` cuts the bytes `s0 s1 s2` into. Of the digit that follows,
only the high bits count, `d1 / 16` and `d2 / 4`: a tail of one or two bytes has zeros below them. -/

theorem byte0_eq {s0 d1 : Nat} (h0 : s0 < 256) (hd : d1 / 16 = s0 % 4) : (s0 / 4 * 4 + d1 / 16) % 256 = s0 := by
  rw [hd, Nat.div_add_mod', Nat.mod_eq_of_lt h0]

-- `(p * 16 + s1 / 16) * 16 + s1 % 16 = p * 256 + s1`, and the multiple of 256 drops under `% 256`; `byte2_eq` likewise with 4 · 64
theorem byte1_eq (p : Nat) {s1 d2 : Nat} (h1 : s1 < 256) (hd : d2 / 4 = s1 % 16) :
    ((p * 16 + s1 / 16) * 16 + d2 / 4) % 256 = s1 := by
  rw [hd, Nat.add_mul, Nat.add_assoc, Nat.div_add_mod', Nat.mul_assoc, Nat.mul_add_mod_self_right, Nat.mod_eq_of_lt h1]

theorem byte2_eq (p : Nat) {s2 : Nat} (h2 : s2 < 256) : ((p * 4 + s2 / 64) * 64 + s2 % 64) % 256 = s2 := by
  rw [Nat.add_mul, Nat.add_assoc, Nat.div_add_mod', Nat.mul_assoc, Nat.mul_add_mod_self_right, Nat.mod_eq_of_lt h2]

theorem limLt_eq_false_iff (lim : Option Nat) (n : Nat) : limLt lim n = false ↔ ∀ l, lim = some l → n ≤ l := by
  cases lim <;> simp [limLt]

/-- `T` decodes what `A` encodes; `'='` is the pad symbol -/
structure Pair (A T : Nat → Nat) : Prop where
  inv : ∀ d, d < 64 → T (A d) = d
  pad : T 61 = 66

variable {A T : Nat → Nat}

theorem decGo_two (hp : Pair A T) {d0 d1 : Nat} (h0 : d0 < 64) (h1 : d1 < 64) (rest : List Nat) (lim : Option Nat)
    (mark : Nat) : decGo T (A d0 :: A d1 :: rest) [] lim mark = decGo T rest [d0, d1] lim mark := by
  simp only [decGo, hp.inv, h0, h1, if_true, List.nil_append, List.cons_append]

theorem decGo_third (hp : Pair A T) {d : Nat} (h : d < 64) (rest : List Nat) (d0 d1 : Nat) (lim : Option Nat)
    (mark : Nat) : decGo T (A d :: rest) [d0, d1] lim mark = decGo T rest [d0, d1, d] lim mark := by
  simp only [decGo, hp.inv, h, if_true, List.cons_append, List.nil_append]

theorem decGo_fourth (hp : Pair A T) {d : Nat} (h : d < 64) (rest : List Nat) (d0 d1 d2 : Nat) {lim : Option Nat}
    (hl : ∀ l, lim = some l → 3 ≤ l) (mark : Nat) :
    decGo T (A d :: rest) [d0, d1, d2] lim mark =
      let bytes := [(d0 * 4 + d1 / 16) % 256, (d1 * 16 + d2 / 4) % 256, (d2 * 64 + d) % 256]
      if lim = some 3 then ⟨0, bytes, rest.length⟩
      else (decGo T rest [] (lim.map (· - 3)) rest.length).push bytes := by
  rw [decGo, hp.inv d h, if_pos h]
  cases lim with
  | none => rfl
  | some l =>
    have h3 := hl l rfl
    simp [limLt, Nat.not_lt.mpr h3, Nat.sub_eq_iff_eq_add h3]

/-- the text ends as `encGo` ends it, with one or two `=` or none: the `tail:` switch sees no unparsed rest -/
theorem decGo_end (hp : Pair A T) (pad : Bool) {pads : List Nat} (h : pads = [61] ∨ pads = [61, 61]) {hold : List Nat}
    (hh : hold.length ≤ 3) (lim : Option Nat) (mark : Nat) :
    decGo T (if pad then pads else []) hold lim mark = decTail hold lim mark 0 := by
  -- written as `_ + 2`, `stripPad`'s count unfolds over the one or two `=`
  have hn : 7 - hold.length = 5 - hold.length + 2 := Nat.sub_add_comm (n := 5) (m := 2) (Nat.le_trans hh (by decide))
  cases pad
  · rfl
  · rcases h with rfl | rfl <;>
      simp only [↓reduceIte, decGo, hp.pad, Nat.reduceLT, Nat.succ_ne_self, hn, stripPad, or_false, List.length_nil]

theorem room_left {n l : Nat} (h : n + 3 ≤ l) (ne : l ≠ 3) : n ≤ l - 3 ∧ 0 < l - 3 :=
  have h3 : 3 ≤ l := Nat.le_of_add_left_le h
  ⟨Nat.le_sub_of_add_le h, Nat.sub_pos_of_lt (Nat.lt_of_le_of_ne h3 ne.symm)⟩

/-- `hl`: a limit has room for `s` and is not the 0 that `base64_decode` takes for "no limit" -/
theorem decGo_encGo (hp : Pair A T) (pad : Bool) (s : List Nat) (lim : Option Nat) (mark : Nat)
    (hs : ∀ b ∈ s, b < 256) (hl : ∀ l, lim = some l → s.length ≤ l ∧ 0 < l) :
    decGo T (encGo A pad s) [] lim mark = ⟨0, s, 0⟩ := by
  fun_induction encGo A pad s generalizing lim mark with
  | case1 s0 s1 s2 rest ih =>
    simp only [List.forall_mem_cons] at hs
    obtain ⟨h0, h1, h2, hs⟩ := hs
    have hl3 : ∀ l, lim = some l → rest.length + 3 ≤ l := fun l e => (hl l e).1
    have q1 : s1 / 16 < 16 := Nat.div_lt_of_lt_mul h1
    have q2 : s2 / 64 < 4 := Nat.div_lt_of_lt_mul h2
    rw [decGo_two hp (Nat.div_lt_of_lt_mul h0) (digit1_lt s0 q1), decGo_third hp (digit2_lt s1 q2),
      decGo_fourth hp (Nat.mod_lt _ (by decide)) _ _ _ _ (fun l e => Nat.le_of_add_left_le (hl3 l e)),
      byte0_eq h0 (high_bits _ q1), byte1_eq _ h1 (high_bits _ q2), byte2_eq _ h2]
    split
    · next e =>
      -- `while (limit > 0)` ends here, with `mark = len`: nothing is left
      cases rest with
      | nil => rfl
      | cons => exact absurd (hl3 _ e) (by simp)
    · next e =>
      rw [ih _ _ hs, DecSt.push]; rfl
      -- left: the premise `hl` of `ih`: the limit that remains, `l - 3`, has room for `rest` and is not 0
      intro l' e'
      obtain ⟨l, rfl, rfl⟩ := Option.map_eq_some_iff.mp e'
      exact room_left (hl3 l rfl) (mt (congrArg some) e)
  | case2 s0 s1 =>
    simp only [List.forall_mem_cons] at hs
    obtain ⟨h0, h1, -⟩ := hs
    have hl2 := (limLt_eq_false_iff lim 2).mpr fun l e => (hl l e).1
    have clean : s1 % 16 * 4 * 64 % 256 = 0 := by rw [Nat.mul_assoc]; exact Nat.mul_mod_left ..
    have q1 : s1 / 16 < 16 := Nat.div_lt_of_lt_mul h1
    rw [decGo_two hp (Nat.div_lt_of_lt_mul h0) (digit1_lt s0 q1), decGo_third hp (digit2_tail_lt s1),
      decGo_end hp pad (.inl rfl) (by simp)]
    simp only [decTail, clean, hl2, byte0_eq h0 (high_bits _ q1), byte1_eq _ h1 (Nat.mul_div_cancel _ (by decide))]
    rfl
  | case3 s0 =>
    have h0 : s0 < 256 := hs s0 List.mem_cons_self
    have hl1 := (limLt_eq_false_iff lim 1).mpr fun l e => (hl l e).1
    have clean : s0 % 4 * 16 * 16 % 256 = 0 := by rw [Nat.mul_assoc]; exact Nat.mul_mod_left ..
    rw [decGo_two hp (Nat.div_lt_of_lt_mul h0) (digit1_tail_lt s0),
      decGo_end hp pad (.inr rfl) (by simp)]
    simp only [decTail, clean, hl1, byte0_eq h0 (Nat.mul_div_cancel _ (by decide))]
    rfl
  | case4 => rfl

theorem decodedSize_eq (n : Nat) : decodedSize n = n / 4 * 3 + (n % 4 - 1) := by
  unfold decodedSize
  match n % 4, Nat.mod_lt n (show 0 < 4 by decide) with
  | 0, _ | 1, _ | 2, _ | 3, _ => rfl

theorem decodedSize_eq_div (n : Nat) : decodedSize n = n * 3 / 4 := by
  rw [decodedSize_eq]
  -- `n = 4 * (n / 4) + n % 4` on the right, then the four residues
  conv => rhs; rw [← Nat.div_add_mod n 4, Nat.add_mul, Nat.mul_assoc, Nat.mul_add_div (by decide)]
  match n % 4, Nat.mod_lt n (show 0 < 4 by decide) with
  | 0, _ | 1, _ | 2, _ | 3, _ => rfl

theorem decodedSize_mono {a b : Nat} (h : a ≤ b) : decodedSize a ≤ decodedSize b := by
  rw [decodedSize_eq_div, decodedSize_eq_div]; exact Nat.div_le_div_right (Nat.mul_le_mul_right 3 h)

theorem decodedSize_add4 (n : Nat) : decodedSize (n + 4) = decodedSize n + 3 := by
  rw [decodedSize_eq, decodedSize_eq, Nat.add_div_right _ (by decide), Nat.add_mod_right, Nat.add_mul,
    Nat.add_right_comm]

/-- `(x + 3) & ~3` of `x = len * 4 / 3` is four characters for every started group of three bytes -/
theorem encodedSize_roundup (n : Nat) : (n * 4 / 3 + 3) / 4 * 4 = (n + 2) / 3 * 4 := by
  -- `n * 4 / 3 + 3 = (4n + 9) / 3`, and `(4n + 9) / 3 / 4 = (4n + 9) / 4 / 3 = (n + 2) / 3`; omega is slow on the
  -- nested divisions
  rw [← Nat.add_mul_div_right _ 3 (by decide), Nat.div_div_eq_div_mul, Nat.mul_comm 3 4, ← Nat.div_div_eq_div_mul,
    Nat.mul_comm n, Nat.mul_add_div (by decide)]

theorem encodedSize_eq (n mode : Nat) :
    encodedSize n mode = n / 3 * 4 + if n % 3 = 0 then 0 else if padBit mode then 4 else n % 3 + 1 := by
  unfold encodedSize padBit
  rw [encodedSize_roundup, Nat.add_div (by decide)]
  match n % 3, Nat.mod_lt n (show 0 < 3 by decide) with
  | 0, _ | 1, _ | 2, _ => by_cases hp : mode / 128 % 2 = 1 <;> simp [hp, Nat.add_mul]

theorem encodedSize_add3 (n mode : Nat) : encodedSize (n + 3) mode = encodedSize n mode + 4 := by
  rw [encodedSize_eq, encodedSize_eq, Nat.add_div_right _ (by decide), Nat.add_mod_right, Nat.add_mul,
    Nat.add_right_comm]

theorem encodedSize_le (n mode : Nat) : encodedSize n mode ≤ (n + 2) / 3 * 4 := by
  unfold encodedSize
  rw [encodedSize_roundup]
  -- every branch is the rounded-up size, less 0, 1 or 2
  (repeat' split) <;> first | exact Nat.le_refl _ | exact Nat.sub_le ..

theorem encGo_length (A : Nat → Nat) (mode : Nat) (s : List Nat) :
    (encGo A (padBit mode) s).length = encodedSize s.length mode := by
  fun_induction encGo A (padBit mode) s with
  | case1 s0 s1 s2 rest ih => simp only [List.length_cons, ih, encodedSize_add3]
  | case2 s0 s1 => rw [encodedSize_eq]; cases padBit mode <;> simp
  | case3 s0 => rw [encodedSize_eq]; cases padBit mode <;> simp
  | case4 => simp [encodedSize_eq]

theorem decodedSize_encodedSize (n mode : Nat) : n ≤ decodedSize (encodedSize n mode) := by
  rw [decodedSize_eq_div, encodedSize_eq, Nat.le_div_iff_mul_le (by decide), Nat.add_mul]
  -- `n = n / 3 * 3 + n % 3` on the left, then the three residues
  conv =>
    lhs
    rw [← Nat.div_add_mod' n 3, Nat.add_mul, Nat.mul_right_comm]
  apply Nat.add_le_add_left
  match n % 3, Nat.mod_lt n (show 0 < 3 by decide) with
  | 0, _ | 1, _ | 2, _ => cases padBit mode <;> decide

theorem pair_rfc : Pair alphaRfc decRfc := ⟨fun d h => dec_alpha_rfc ⟨d, h⟩, by decide⟩
theorem pair_url : Pair alphaUrl decUrl := ⟨fun d h => dec_alpha_url ⟨d, h⟩, by decide⟩

/-- the skipspace tables: LF, CR and space, invalid (64) in the plain ones, are marked 65 (ignore); tab is not, as the
header says -/
theorem rfcSkipDecodeTbl_eq : rfcSkipDecodeTbl = ((rfcDecodeTbl.set 10 65).set 13 65).set 32 65 := rfl
theorem urlSkipDecodeTbl_eq : urlSkipDecodeTbl = ((urlDecodeTbl.set 10 65).set 13 65).set 32 65 := rfl

theorem getD_skip {tbl : List Nat} (h10 : tbl.getD 10 64 = 64) (h13 : tbl.getD 13 64 = 64) (h32 : tbl.getD 32 64 = 64)
    {c : Nat} (h : tbl.getD c 64 ≠ 64) : (((tbl.set 10 65).set 13 65).set 32 65).getD c 64 = tbl.getD c 64 := by
  have ne : ∀ {l : List Nat} {i : Nat}, c ≠ i → (l.set i 65).getD c 64 = l.getD c 64 := fun hi => by
    simp only [List.getD_eq_getElem?_getD, List.getElem?_set_ne (Ne.symm hi)]
  -- `c` is none of 10, 13, 32, where `tbl` has 64
  rw [ne (by rintro rfl; exact h h32), ne (by rintro rfl; exact h h13), ne (by rintro rfl; exact h h10)]

theorem Pair.of_agree {T' : Nat → Nat} (hp : Pair A T) (h : ∀ c, T c ≠ 64 → T' c = T c) : Pair A T' where
  inv d hd := by rw [h _ (by rw [hp.inv d hd]; exact Nat.ne_of_lt hd), hp.inv d hd]
  pad := by rw [h _ (by rw [hp.pad]; decide), hp.pad]

theorem pair_rfc_skip : Pair alphaRfc decRfcSkip :=
  pair_rfc.of_agree fun c h => by unfold decRfcSkip; rw [rfcSkipDecodeTbl_eq]; exact getD_skip rfl rfl rfl h
theorem pair_url_skip : Pair alphaUrl decUrlSkip :=
  pair_url.of_agree fun c h => by unfold decUrlSkip; rw [urlSkipDecodeTbl_eq]; exact getD_skip rfl rfl rfl h

theorem pair_of_modes (mode dm : Nat) (hm : baseMode mode ≤ 1) (hd : baseMode dm = baseMode mode) :
    ∃ A T, encAlphabet mode = some A ∧ decTable dm = some T ∧ Pair A T := by
  unfold encAlphabet decTable
  rw [hd]
  rcases Nat.le_one_iff_eq_zero_or_eq_one.mp hm with h | h
  · rw [h]
    cases skipBit dm
    · exact ⟨_, _, rfl, rfl, pair_rfc⟩
    · exact ⟨_, _, rfl, rfl, pair_rfc_skip⟩
  · rw [h]
    cases skipBit dm
    · exact ⟨_, _, rfl, rfl, pair_url⟩
    · exact ⟨_, _, rfl, rfl, pair_url_skip⟩

theorem encode_length (s : List Nat) (mode : Nat) (hm : baseMode mode ≤ 1) :
    (encode s mode).length = encodedSize s.length mode := by
  obtain ⟨A, _, hA, _⟩ := pair_of_modes mode mode hm rfl
  unfold encode
  rw [hA]
  exact encGo_length A mode s

/-- the parser's `flatcc_builder_extend_vector(ctx, base64_decoded_size(len))` has room for `s` -/
theorem decodedSize_bound (s : List Nat) (mode : Nat) (hm : baseMode mode ≤ 1) :
    s.length ≤ decodedSize (encode s mode).length := by
  rw [encode_length s mode hm]; exact decodedSize_encodedSize _ _

/-- `dstLen` 0 is `base64_decode`'s "no limit"; `dm` is the decode mode: the alphabet of `mode`, skipspace or not -/
theorem decodeLim_encode (s : List Nat) (mode dm dstLen : Nat) (hs : ∀ b ∈ s, b < 256)
    (hm : baseMode mode ≤ 1) (hd : baseMode dm = baseMode mode) (hl : dstLen = 0 ∨ s.length ≤ dstLen) :
    decodeLim dstLen (encode s mode) dm = ⟨0, s, (encode s mode).length⟩ := by
  obtain ⟨A, T, hA, hT, hp⟩ := pair_of_modes mode dm hm hd
  unfold decodeLim encode
  simp only [hA, hT]
  rw [decGo_encGo hp (padBit mode) s _ _ hs]
  · simp
  · intro l h
    obtain ⟨h0, e⟩ := Option.ite_none_left_eq_some.mp h
    cases e
    exact ⟨hl.resolve_left h0, Nat.pos_of_ne_zero h0⟩

theorem decode_encode (s : List Nat) (mode dm : Nat) (hs : ∀ b ∈ s, b < 256)
    (hm : baseMode mode ≤ 1) (hd : baseMode dm = baseMode mode) :
    decode (encode s mode) dm = ⟨0, s, (encode s mode).length⟩ :=
  decodeLim_encode s mode dm 0 hs hm hd (Or.inl rfl)

theorem encGo_mem (A : Nat → Nat) (pad : Bool) (s : List Nat) (hs : ∀ b ∈ s, b < 256) :
    ∀ c ∈ encGo A pad s, c = 61 ∨ ∃ d, d < 64 ∧ c = A d := by
  have dig : ∀ {d}, d < 64 → A d = 61 ∨ ∃ d', d' < 64 ∧ A d = A d' := fun h => .inr ⟨_, h, rfl⟩
  -- the padding: `[61]` and `[61, 61]`
  have pads : ∀ n, ∀ c ∈ List.replicate n 61, c = 61 ∨ ∃ d, d < 64 ∧ c = A d :=
    fun _ _ h => .inl (List.eq_of_mem_replicate h)
  fun_induction encGo A pad s with
  | case1 s0 s1 s2 rest ih =>
    simp only [List.forall_mem_cons] at hs ⊢
    obtain ⟨h0, h1, h2, hs⟩ := hs
    exact ⟨dig (Nat.div_lt_of_lt_mul h0), dig (digit1_lt s0 (Nat.div_lt_of_lt_mul h1)),
      dig (digit2_lt s1 (Nat.div_lt_of_lt_mul h2)), dig (Nat.mod_lt _ (by decide)), ih hs⟩
  | case2 s0 s1 =>
    simp only [List.forall_mem_cons] at hs ⊢
    obtain ⟨h0, h1, -⟩ := hs
    refine ⟨dig (Nat.div_lt_of_lt_mul h0), dig (digit1_lt s0 (Nat.div_lt_of_lt_mul h1)),
      dig (digit2_tail_lt s1), ?_⟩
    cases pad
    · nofun
    · exact pads 1
  | case3 s0 =>
    simp only [List.forall_mem_cons] at hs ⊢
    refine ⟨dig (Nat.div_lt_of_lt_mul hs.1), dig (digit1_tail_lt s0), ?_⟩
    cases pad
    · nofun
    · exact pads 2
  | case4 => nofun

theorem encAlphabet_some {mode : Nat} {A : Nat → Nat} (h : encAlphabet mode = some A) :
    A = alphaRfc ∨ A = alphaUrl := by
  unfold encAlphabet at h
  split at h
  · exact .inl (Option.some.inj h).symm
  · split at h
    · exact .inr (Option.some.inj h).symm
    · cases h

theorem getD_mem {l : List Nat} {d : Nat} (h : d < l.length) : l.getD d 0 ∈ l := by
  rw [List.getD_eq_getElem?_getD, List.getElem?_eq_getElem h]; exact List.getElem_mem h

theorem encode_alphabet (s : List Nat) (mode : Nat) (hs : ∀ b ∈ s, b < 256) :
    ∀ b ∈ encode s mode, b = 61 ∨ b ∈ rfcAlphabet ++ urlAlphabet := by
  intro b hb
  unfold encode at hb
  split at hb
  · cases hb
  · next A hA =>
    rcases encGo_mem A _ s hs b hb with h | ⟨d, hd, rfl⟩
    · exact .inl h
    · rcases encAlphabet_some hA with rfl | rfl
      · exact .inr (List.mem_append_left _ (getD_mem hd))
      · exact .inr (List.mem_append_right _ (getD_mem hd))

theorem encode_no_escape (s : List Nat) (mode : Nat) (hs : ∀ b ∈ s, b < 256) :
    ∀ b ∈ encode s mode, b ≠ 34 ∧ b ≠ 92 ∧ 32 ≤ b ∧ b < 127 := by
  intro b hb
  rcases encode_alphabet s mode hs b hb with rfl | h
  · decide
  · exact alphabets_plain b h

theorem stripPad_length_le (T : Nat → Nat) (n : Nat) (l : List Nat) : (stripPad T n l).length ≤ l.length := by
  fun_induction stripPad T n l with
  | case1 l => exact Nat.le_refl _
  | case2 n => exact Nat.le_refl _
  | case3 n c r h ih => exact Nat.le_succ_of_le ih
  | case4 n c r h => exact Nat.le_refl _

theorem le_of_not_limLt {lim : Option Nat} {n l : Nat} (h : ¬ limLt lim n = true) (hl : lim = some l) : n ≤ l :=
  (limLt_eq_false_iff lim n).mp ((Bool.not_eq_true _).mp h) l hl

/-- `r` wrote at most `n` bytes, at most `dst_len` if one was given, and left the C variable `mark` at most `m` -/
structure Within (r : DecSt) (n : Nat) (lim : Option Nat) (m : Nat) : Prop where
  out_le : r.out.length ≤ n
  out_lim : ∀ l, lim = some l → r.out.length ≤ l
  mark_le : r.mark ≤ m

theorem Within.mono {r : DecSt} {n n' m : Nat} {lim : Option Nat} (h : Within r n lim m) (hn : n ≤ n') :
    Within r n' lim m :=
  ⟨Nat.le_trans h.out_le hn, h.out_lim, h.mark_le⟩

theorem Within.stop (ret n : Nat) (lim : Option Nat) {mark m : Nat} (h : mark ≤ m) : Within ⟨ret, [], mark⟩ n lim m :=
  ⟨Nat.zero_le _, fun _ _ => Nat.zero_le _, h⟩

theorem Within.push3 {r : DecSt} {n m : Nat} {lim : Option Nat} (h : Within r n (lim.map (· - 3)) m)
    (hl : ∀ l, lim = some l → 3 ≤ l) (b0 b1 b2 : Nat) : Within (r.push [b0, b1, b2]) (n + 3) lim m := by
  refine ⟨Nat.add_le_add_right h.out_le 3, ?_, h.mark_le⟩
  rintro l rfl
  show r.out.length + 3 ≤ l
  exact Nat.add_le_of_le_sub (hl l rfl) (h.out_lim (l - 3) rfl)

theorem decTail_within (hold : List Nat) (lim : Option Nat) {mark r m : Nat} (hm : mark ≤ m) (hr : r ≤ m) :
    Within (decTail hold lim mark r) (decodedSize hold.length) lim m := by
  fun_cases decTail hold lim mark r
  case case1 => exact .stop _ _ _ hr                                    -- `case 0`: nothing held
  case case4 h =>                                                        -- `case 2`, clean, room for one byte
    exact ⟨show 1 ≤ decodedSize 2 by decide, fun l => le_of_not_limLt h, hr⟩
  case case7 h =>                                                        -- `case 3`, clean, room for two bytes
    exact ⟨show 2 ≤ decodedSize 3 by decide, fun l => le_of_not_limLt h, hr⟩
  all_goals exact .stop _ _ _ hm                                         -- `dirty:`, `more:`, `BASE64_ETAIL`

theorem decGo_within (T : Nat → Nat) (src hold : List Nat) (lim : Option Nat) (mark : Nat) {m : Nat}
    (hh : hold.length ≤ 3) (hm : mark ≤ m) (hs : src.length ≤ m) :
    Within (decGo T src hold lim mark) (decodedSize (hold.length + src.length)) lim m := by
  -- a group of four characters is worth three bytes
  have group : ∀ n, decodedSize (0 + n) + 3 = decodedSize (3 + (n + 1)) := fun n => by
    rw [← decodedSize_add4, Nat.zero_add, Nat.add_comm 3]
  fun_induction decGo T src hold lim mark with
  | case1 hold lim mark => exact decTail_within hold lim hm (Nat.zero_le _)      -- `len == i`: end of the source
  | case2 c rest lim mark hc h0 h1 h2 hl => exact .stop _ _ _ hm                 -- fourth digit, `limit < 3`: `more:`
  | case3 c rest mark hc h0 h1 h2 bytes hl ih =>                                 -- fourth digit, no limit
    have hr := Nat.le_of_succ_le hs
    exact ((ih (Nat.zero_le _) hr hr).push3 (lim := none) nofun _ _ _).mono (Nat.le_of_eq (group _))
  | case4 c rest mark hc h0 h1 h2 bytes l hl hlim =>                             -- fourth digit, the limit is used up
    exact ⟨group rest.length ▸ Nat.le_add_left .., fun _ => le_of_not_limLt hlim, Nat.le_of_succ_le hs⟩
  | case5 c rest mark hc h0 h1 h2 bytes l hl hlim ih =>                          -- fourth digit, limit left over
    have hr := Nat.le_of_succ_le hs
    exact ((ih (Nat.zero_le _) hr hr).push3 (lim := some l) (fun _ => le_of_not_limLt hlim) _ _ _).mono
      (Nat.le_of_eq (group _))
  | case6 c rest hold lim mark hc hne ih =>                                      -- first to third digit: held
    have h3 : hold.length ≠ 3 := fun e => hne _ _ _ (hold.eq_getElem_of_length_eq_three e)
    have hl : (hold ++ [T c]).length = hold.length + 1 := List.length_append
    refine (ih (hl ▸ Nat.lt_of_le_of_ne hh h3) hm (Nat.le_of_succ_le hs)).mono (Nat.le_of_eq ?_)
    rw [hl, Nat.add_assoc, Nat.add_comm 1]; rfl
  | case7 c rest hold lim mark hc h65 ih =>                                      -- `cignore`: skipped
    exact (ih hh hm (Nat.le_of_succ_le hs)).mono (decodedSize_mono (Nat.le_succ _))
  | case8 c rest hold lim mark hc h65 h66 =>                                     -- `cpadding`: strip, then `tail:`
    exact (decTail_within hold lim hm (Nat.le_trans (stripPad_length_le ..) (Nat.le_of_succ_le hs))).mono
      (decodedSize_mono (Nat.le_add_right ..))
  | case9 c rest hold lim mark hc h65 h66 =>                                     -- invalid character: `tail:`
    exact (decTail_within hold lim hm hs).mono (decodedSize_mono (Nat.le_add_right ..))

theorem decodeLim_never_overruns (dstLen : Nat) (src : List Nat) (mode : Nat) :
    (decodeLim dstLen src mode).decoded.length ≤ decodedSize src.length
    ∧ (0 < dstLen → (decodeLim dstLen src mode).decoded.length ≤ dstLen)
    ∧ (decodeLim dstLen src mode).srcConsumed ≤ src.length := by
  unfold decodeLim
  cases decTable mode with
  | none => exact ⟨Nat.zero_le _, fun _ => Nat.zero_le _, Nat.zero_le _⟩
  | some T =>
    have h := decGo_within T src [] (if dstLen = 0 then none else some dstLen) src.length (Nat.zero_le _)
      (Nat.le_refl _) (Nat.le_refl _)
    refine ⟨by simpa using h.out_le, fun hd => h.out_lim dstLen (if_neg (Nat.ne_of_gt hd)), Nat.sub_le ..⟩

theorem decode_never_overruns (src : List Nat) (mode : Nat) :
    (decode src mode).decoded.length ≤ decodedSize src.length ∧ (decode src mode).srcConsumed ≤ src.length :=
  have h := decodeLim_never_overruns 0 src mode
  ⟨h.1, h.2.2⟩

/-- the subtraction in `srcConsumed = len - mark` is exact (no `size_t` wrap in `*src_len -= mark`) -/
theorem decode_mark_le (T : Nat → Nat) (src : List Nat) (lim : Option Nat) :
    (decGo T src [] lim src.length).mark ≤ src.length :=
  (decGo_within T src [] lim src.length (Nat.zero_le _) (Nat.le_refl _) (Nat.le_refl _)).mark_le

theorem encGo_append (A : Nat → Nat) (pad : Bool) (a b : List Nat) (h : a.length % 3 = 0) :
    encGo A pad (a ++ b) = encGo A false a ++ encGo A pad b := by
  fun_induction encGo A false a with
  | case1 s0 s1 s2 rest ih =>
    simp only [List.cons_append, encGo, ih ((Nat.add_mod_right _ 3).symm.trans h)]
  | case2 s0 s1 => cases h
  | case3 s0 => cases h
  | case4 => rfl

/-- `mode & ~128` with bit 7 set: the quotient `mode / 128 = 2 * q + 1` loses its low bit -/
theorem sub128_div {mode : Nat} (h : mode / 128 % 2 = 1) : (mode - 128) / 128 = 2 * (mode / 128 / 2) := by
  have e : 2 * (mode / 128 / 2) + 1 = mode / 128 := h ▸ Nat.div_add_mod (mode / 128) 2
  rw [Nat.sub_mul_div mode 128 1]
  exact Nat.sub_eq_of_eq_add e.symm

theorem baseMode_unpadded (mode : Nat) : baseMode (unpadded mode) = baseMode mode := by
  unfold unpadded baseMode
  split
  · next h =>
    -- clearing the set bit 7 changes neither `% 32` (128 = 32 * 4) nor `/ 256` (`/ 128 / 2`); omega is slow on this
    have h128 : 32 * 4 ≤ mode := Nat.le_of_not_lt fun lt => by rw [Nat.div_eq_of_lt lt] at h; cases h
    rw [Nat.sub_mul_mod h128, ← Nat.div_div_eq_div_mul (mode - 128) 128 2, sub128_div h,
      Nat.mul_div_cancel_left _ (by decide), Nat.div_div_eq_div_mul]
  · rfl

theorem padBit_unpadded (mode : Nat) : padBit (unpadded mode) = false := by
  unfold unpadded
  split
  · next h =>
    rw [padBit, sub128_div h, Nat.mul_mod_right]
    rfl
  · next h => exact decide_eq_false h

theorem encode_append (a b : List Nat) (mode : Nat) (h : a.length % 3 = 0) :
    encode (a ++ b) mode = encode a (unpadded mode) ++ encode b mode := by
  have hA : encAlphabet (unpadded mode) = encAlphabet mode := by unfold encAlphabet; rw [baseMode_unpadded]
  unfold encode
  rw [hA, padBit_unpadded]
  cases encAlphabet mode with
  | none => simp
  | some A => exact encGo_append A _ a b h

/-- `k = ((pflush - p) + 3) & ~3` output characters with `k < len = base64_encoded_size(data_len, mode)`:
the chunk `n = k * 3 / 4` is a multiple of 3 source bytes and lies inside the data (no over-read), for any mode. -/
theorem print_chunk_in_bounds (room dataLen mode : Nat)
    (h : (room + 3) / 4 * 4 < encodedSize dataLen mode) :
    (room + 3) / 4 * 4 * 3 / 4 % 3 = 0 ∧ (room + 3) / 4 * 4 * 3 / 4 ≤ dataLen := by
  have hlt : (room + 3) / 4 < (dataLen + 2) / 3 :=
    Nat.lt_of_mul_lt_mul_right (Nat.lt_of_lt_of_le h (encodedSize_le dataLen mode))
  -- `hlt` multiplied out by 3 (omega is slow on the two divisions)
  have hmul : (room + 3) / 4 * 3 + 3 ≤ dataLen + 2 := Nat.add_one_mul .. ▸ Nat.mul_le_of_le_div 3 _ _ hlt
  -- the chunk is `(room + 3) / 4 * 3` source bytes
  rw [Nat.mul_right_comm, Nat.mul_div_cancel _ (by decide)]
  exact ⟨Nat.mul_mod_left .., Nat.le_of_add_le_add_right (Nat.le_of_succ_le hmul)⟩

theorem encode_take_drop (src : List Nat) (mode : Nat) {n : Nat} (h3 : n % 3 = 0) (hle : n ≤ src.length) :
    encode (src.take n) (unpadded mode) ++ encode (src.drop n) mode = encode src mode := by
  rw [← encode_append _ _ _ (by rw [List.length_take, Nat.min_eq_left hle]; exact h3), List.take_append_drop]

theorem printRooms_eq_encode (rooms src : List Nat) (mode : Nat) : printRooms rooms src mode = encode src mode := by
  fun_induction printRooms rooms src mode with
  | case1 src mode => rfl
  | case2 room rooms src mode _ _ ih => exact ih
  | case3 => rfl
  | case4 room rooms src mode _ _ hk ih =>
    obtain ⟨h3, hle⟩ := print_chunk_in_bounds room src.length mode (Nat.lt_of_not_le hk)
    rw [ih]; exact encode_take_drop src mode h3 hle
  | case5 => rfl

theorem printRoomsPieces_flatten (rooms : List Nat) : ∀ (src : List Nat) (mode : Nat),
    (printRoomsPieces rooms src mode).flatten = printRooms rooms src mode := by
  intro src mode
  -- the two definitions branch alike
  fun_induction printRoomsPieces rooms src mode <;> simp [printRooms, *]

theorem printChunksGo_eq_encode (chunk mode : Nat) (hc : chunk % 3 = 0) (fuel : Nat) (src : List Nat) :
    printChunksGo chunk mode fuel src = encode src mode := by
  fun_induction printChunksGo chunk mode fuel src with
  | case1 src => rfl
  | case2 fuel src h ih => rw [ih]; exact encode_take_drop src mode hc (Nat.le_of_lt h.2)
  | case3 => rfl

theorem printChunks_eq_encode (chunk : Nat) (src : List Nat) (mode : Nat) (hc : chunk % 3 = 0) :
    printChunks chunk src mode = encode src mode :=
  printChunksGo_eq_encode chunk mode hc _ src

theorem parse_encode (s : List Nat) (mode : Nat) (urlsafe : Bool) (hs : ∀ b ∈ s, b < 256)
    (hm : baseMode mode = if urlsafe then 1 else 0) :
    parseBase64 (encode s mode) urlsafe = some s := by
  have ⟨hm1, hd⟩ : baseMode mode ≤ 1 ∧ baseMode (if urlsafe then 1 else 0) = baseMode mode := by
    rw [hm]; cases urlsafe <;> decide
  have hb := decodedSize_bound s mode hm1
  unfold parseBase64
  rw [decodeLim_encode s mode _ _ hs hm1 hd (Or.inr hb)]
  simp

/-- `flatcc_json_printer_uint8_vector_base64_field` then `flatcc_json_parser_build_uint8_vector_base64`, for any
flush behaviour of the printer -/
theorem parse_print (rooms : List Nat) (s : List Nat) (urlsafe : Bool) (hs : ∀ b ∈ s, b < 256) :
    parseBase64 (printRooms rooms s (printerMode urlsafe)) urlsafe = some s := by
  rw [printRooms_eq_encode]
  exact parse_encode s _ urlsafe hs (by cases urlsafe <;> decide)

theorem stringPart_plain (t rest : List Nat) (ht : ∀ b ∈ t, b ≠ 34 ∧ b ≠ 92 ∧ 32 ≤ b ∧ b < 127) :
    stringPart (t ++ 34 :: rest) = (t, 34 :: rest) := by
  induction t with
  | nil => simp [stringPart]
  | cons c r ih =>
    obtain ⟨hc, hr⟩ := List.forall_mem_cons.mp ht
    simp [stringPart, ih hr, hc.1, hc.2.1, hc.2.2.1]

theorem parse_print_field (rooms : List Nat) (s rest : List Nat) (urlsafe : Bool) (hs : ∀ b ∈ s, b < 256) :
    parseBase64Field (printBase64Field rooms s urlsafe ++ rest) urlsafe = some (s, rest) := by
  unfold printBase64Field parseBase64Field
  have hp := stringPart_plain (printRooms rooms s (printerMode urlsafe)) rest
    (by rw [printRooms_eq_encode]; exact encode_no_escape s _ hs)
  simp only [List.cons_append, List.append_assoc, List.nil_append, hp, parse_print rooms s urlsafe hs]

/-! ## the C expressions as written (shift / mask / or) equal the arithmetic forms used in the model -/

/-- `(a << k) | b` has no carry when `b` fits in the `k` vacated bits -/
theorem shl_or (a : Nat) {b k : Nat} (h : b < 2 ^ k) : a <<< k ||| b = a * 2 ^ k + b := by
  rw [← Nat.shiftLeft_add_eq_or_of_lt h, Nat.shiftLeft_eq]

theorem shl_and_mask (x k n : Nat) : (x <<< k) &&& ((2 ^ n - 1) <<< k) = (x % 2 ^ n) <<< k := by
  rw [← Nat.shiftLeft_and_distrib, Nat.and_two_pow_sub_one_eq_mod]

theorem bits_and3f : ∀ x : Fin 256, x.val &&& 0x3f = x.val % 64 :=
  fun x => Nat.and_two_pow_sub_one_eq_mod x.val 6

/-- `((src[0] << 4) & 0x30) | (src[1] >> 4)` -/
theorem enc_digit1_bits (s0 s1 : Nat) (h0 : s0 < 256) (h1 : s1 < 256) :
    ((s0 <<< 4) &&& 0x30) ||| (s1 >>> 4) = s0 % 4 * 16 + s1 / 16 := by
  rw [show (s0 <<< 4) &&& 0x30 = _ from shl_and_mask s0 4 2, Nat.shiftRight_eq_div_pow,
    shl_or _ (Nat.div_lt_of_lt_mul h1)]

/-- `((src[1] << 2) & 0x3c) | (src[2] >> 6)` -/
theorem enc_digit2_bits (s1 s2 : Nat) (h1 : s1 < 256) (h2 : s2 < 256) :
    ((s1 <<< 2) &&& 0x3c) ||| (s2 >>> 6) = s1 % 16 * 4 + s2 / 64 := by
  rw [show (s1 <<< 2) &&& 0x3c = _ from shl_and_mask s1 2 4, Nat.shiftRight_eq_div_pow,
    shl_or _ (Nat.div_lt_of_lt_mul h2)]

/-- `(uint8_t)((hold[0] << 2) | (hold[1] >> 4))`, `(uint8_t)((hold[1] << 4) | (hold[2] >> 2))`,
`(uint8_t)((hold[2] << 6) | hold[3])` for table values below 64 -/
theorem dec_byte0_bits : ∀ a b : Fin 64, ((a.val <<< 2) ||| (b.val >>> 4)) % 256 = (a.val * 4 + b.val / 16) % 256 := by
  intro a b
  rw [Nat.shiftRight_eq_div_pow, shl_or a.val (Nat.div_lt_of_lt_mul b.isLt)]
theorem dec_byte1_bits : ∀ a b : Fin 64, ((a.val <<< 4) ||| (b.val >>> 2)) % 256 = (a.val * 16 + b.val / 4) % 256 := by
  intro a b
  rw [Nat.shiftRight_eq_div_pow, shl_or a.val (Nat.div_lt_of_lt_mul b.isLt)]
theorem dec_byte2_bits : ∀ a b : Fin 64, ((a.val <<< 6) ||| b.val) % 256 = (a.val * 64 + b.val) % 256 := by
  intro a b
  rw [shl_or a.val b.isLt]
/-- the dirty-tail tests `(hold[1] << 4) & 0xff`, `(hold[2] << 6) & 0xff` -/
theorem dec_dirty2_bits : ∀ a : Fin 64, (a.val <<< 4) &&& 0xff = a.val * 16 % 256 := by
  intro a
  rw [Nat.shiftLeft_eq]; exact Nat.and_two_pow_sub_one_eq_mod _ 8
theorem dec_dirty3_bits : ∀ a : Fin 64, (a.val <<< 6) &&& 0xff = a.val * 64 % 256 := by
  intro a
  rw [Nat.shiftLeft_eq]; exact Nat.and_two_pow_sub_one_eq_mod _ 8

end Flatcc.Base64
