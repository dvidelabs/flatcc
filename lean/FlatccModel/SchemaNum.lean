import FlatccModel.Num
import FlatccModel.Generated.Consts
/-!
# Schema numeric literals (`parser.c: read_integer_value / read_hex_value`, `pparseint.h`,
`coerce.c: fb_coerce_scalar_type`, `semantics.c: process_enum` numbering)
-/
namespace Flatcc.SchemaNum
open Flatcc.Num

inductive STy | ubyte | ushort | uint | ulong | byte | short | int | long | bool
  deriving DecidableEq, Repr

/-- integer / boolean literal tokens (float literals are outside this model) -/
inductive Lit
  | dec (neg : Bool) (digits : List Nat)     -- ASCII digits
  | hex (neg : Bool) (digits : List Nat)     -- hex digit VALUES 0..15, after "0x"
  | bool (b : Bool)
  deriving Repr

/-- `fb_value_t` after the parser: unsigned, (negative) signed, bool, or invalid -/
inductive Val
  | uint (u : Nat)
  | int (i : Int)
  | bool (b : Bool)
  | invalid
  deriving Repr, DecidableEq

def hexVal (ds : List Nat) : Nat := ds.foldl (fun a d => a * 16 + d) 0

/-- two's complement reinterpretation of a 64-bit word -/
def toI64 (u : Nat) : Int := if u < 9223372036854775808 then (u : Int) else (u : Int) - 18446744073709551616

/-- `read_integer_value` / `read_hex_value`: magnitude through `parse_integer` / `parse_hex_integer`,
then `v->i = (int64_t)(0 - v->u)` for a negative sign (wraps for magnitudes above 2^63) -/
def readLit : Lit → Val
  | .dec neg ds =>
    match digitLoop ds 0 0 with
    | (some u, cnt) =>
      if cnt ≠ ds.length ∨ ds = [] then .invalid
      else if neg then .int (toI64 ((18446744073709551616 - u) % 18446744073709551616)) else .uint u
    | (none, _) => .invalid
  | .hex neg ds =>
    if ds = [] ∨ ds.length > 16 then .invalid
    else if neg then .int (toI64 ((18446744073709551616 - hexVal ds) % 18446744073709551616)) else .uint (hexVal ds)
  | .bool b => .bool b

/-- a non-negative `vt_int` is turned back into `vt_uint` -/
def normInt : Val → Val
  | .int i => if i ≥ 0 then .uint i.toNat else .int i
  | v => v

/-- `true`/`false` become 1/0 when boolean conversion is allowed and the target is not bool -/
def normBool (allowBool : Bool) (st : STy) : Val → Val
  | .bool b => if st ≠ .bool ∧ allowBool = true then .uint (if b then 1 else 0) else .bool b
  | v => v

def unsignedT (lim : Nat) : Val → Option Val
  | .uint u => if u > lim then none else some (.uint u)
  | _ => none

def signedT (minv : Int) (maxv : Nat) : Val → Option Val
  | .int i => if i < minv then none else some (.int i)
  | .uint u => if u > maxv then none else some (.int u)
  | _ => none

def longT : Val → Option Val
  | .int i => some (.int i)
  | .uint u => if u ≥ 9223372036854775808 then none else some (.int u)
  | _ => none

def boolT (allowBool : Bool) : Val → Option Val
  | .uint u => if allowBool then (if u > 1 then none else some (.uint u)) else none
  | .bool b => some (.bool b)
  | _ => none

/-- `fb_coerce_scalar_type(P, sym, st, value)`: `none` = error; result = the accepted value -/
def coerce (allowBool : Bool) (st : STy) (v : Val) : Option Val :=
  let v := normBool allowBool st (normInt v)
  match st with
  | .ulong => unsignedT 18446744073709551615 v
  | .uint => unsignedT 4294967295 v
  | .ushort => unsignedT 65535 v
  | .ubyte => unsignedT 255 v
  | .long => longT v
  | .int => signedT (-2147483648) 2147483647 v
  | .short => signedT (-32768) 32767 v
  | .byte => signedT (-128) 127 v
  | .bool => boolT allowBool v

/-- the accepted default as a mathematical integer -/
def valInt : Val → Option Int
  | .uint u => some u
  | .int i => some i
  | .bool b => some (if b then 1 else 0)
  | .invalid => none

/-- a scalar default: literal → value → coercion -/
def acceptLit (allowBool : Bool) (st : STy) (l : Lit) : Option Int :=
  match readLit l with
  | .invalid => none
  | v => (coerce allowBool st v).bind valInt

/-! ### specification side -/

def litValue : Lit → Int
  | .dec neg ds => if neg then -(decval ds : Int) else decval ds
  | .hex neg ds => if neg then -(hexVal ds : Int) else hexVal ds
  | .bool b => if b then 1 else 0

def range : STy → Int × Int
  | .ubyte => (0, 255) | .ushort => (0, 65535) | .uint => (0, 4294967295) | .ulong => (0, 18446744073709551615)
  | .byte => (-128, 127) | .short => (-32768, 32767) | .int => (-2147483648, 2147483647)
  | .long => (-9223372036854775808, 9223372036854775807) | .bool => (0, 1)

def Representable (st : STy) (v : Int) : Prop := (range st).1 ≤ v ∧ v ≤ (range st).2

/-! ### enum numbering (`process_enum`, plain enums without bit_flags) -/

/-- members with optional explicit (already parsed) values; result: the value of each member or `none` on error.
`prev = none` for the first member. -/
def enumValues (st : STy) : Option Val → List (Option Val) → Option (List Int)
  | _, [] => some []
  | prev, m :: rest =>
    let idx : Option Val :=
      match m with
      | some v => some v
      | none =>
        match prev with
        | none => some (.int 0)                       -- first member starts at 0
        | some (.uint u) => if st = .ulong ∧ u = 18446744073709551615 then none else some (.uint (u + 1))
        | some (.int i) => if st = .long ∧ i = 9223372036854775807 then none else some (.int (i + 1))
        | some (.bool b) => if b then none else some (.bool true)
        | some .invalid => none
    match idx with
    | none => none
    | some v =>
      match coerce false st v with
      | none => none
      | some v' =>
        match valInt v', enumValues st (some v') rest with
        | some i, some r => some (i :: r)
        | _, _ => none

/-! ### enum numbering with `bit_flags` (`process_enum`): members are bit positions -/

def bitsOf : STy → Nat
  | .ubyte | .byte | .bool => 8 | .ushort | .short => 16 | .uint | .int => 32 | .ulong | .long => 64

/-- `index.u`: the 64-bit unsigned view of the position counter -/
def valU : Val → Nat
  | .uint u => u
  | .int i => if i ≥ 0 then i.toNat else (i + 18446744073709551616).toNat
  | .bool b => if b then 1 else 0
  | .invalid => 0

/-- positions with optional explicit values; result: the flag value of each member or `none` on error. An explicit position
must be an unsigned literal; a missing one continues from the previous POSITION (not from the flag value); the position must
be below the bit width of the underlying type and the flag `1 << position` must pass the coercion to that type (which refuses
the sign bit of the signed types). -/
def enumFlagValues (st : STy) : Option Val → List (Option Val) → Option (List Int)
  | _, [] => some []
  | prev, m :: rest =>
    let idx : Option Val :=
      match m with
      | some (.uint u) => some (.uint u)
      | some _ => none
      | none =>
        match prev with
        | none => some (.int 0)
        | some (.uint u) => if st = .ulong ∧ u = 18446744073709551615 then none else some (.uint (u + 1))
        | some (.int i) => if st = .long ∧ i = 9223372036854775807 then none else some (.int (i + 1))
        | some (.bool b) => if b then none else some (.bool true)
        | some .invalid => none
    match idx with
    | none => none
    | some v =>
      if valU v ≥ bitsOf st then none else
      match coerce false st (.uint (2 ^ valU v)) with
      | none => none
      | some v' =>
        match valInt v', enumFlagValues st (some v) rest with
        | some i, some r => some (i :: r)
        | _, _ => none

/-! ### `force_align` (`semantics.c: is_valid_align`, `process_struct`, `analyze_struct`) -/

/-- the loop of `is_valid_align`: `n = 1; while (n <= align) { if (n == align) return 1; n *= 2; }` -/
def validLoop : Nat → Nat → Nat → Bool
  | 0, _, _ => false
  | f+1, n, a => if n ≤ a then (if n = a then true else validLoop f (2 * n) a) else false

/-- `is_valid_align(uint64_t align)`: the attribute's 64-bit value, not a narrowed copy of it -/
def isValidAlign (a : Nat) : Bool :=
  if a = 0 ∨ a > Flatcc.Consts.forceAlignMax then false else validLoop 64 1 a

/-- `struct S (force_align: <literal>)` over members whose natural alignment is `natural`: the attribute must be an unsigned
literal (known attribute of type `vt_uint`), a valid alignment, and not below the natural alignment; the struct then has it -/
def forceAlign (l : Lit) (natural : Nat) : Option Nat :=
  match readLit l with
  | .uint u => if isValidAlign u && decide (natural ≤ u) then some u else none
  | _ => none

end Flatcc.SchemaNum
