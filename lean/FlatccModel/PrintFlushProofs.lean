import FlatccModel.PrintFlush
/-! The output layer of the JSON printer, operation by operation: every operation is a run of unchecked writes and
flushes (`Run`), and what holds of those two holds of all. -/
namespace Flatcc.PrintFlush

/-- either overflow has been flagged, or everything printed so far is exactly `t` -/
def TextOK (s : Pr) (t : List Nat) : Prop := s.overflow = true ∨ text s = t

theorem text_raw (s : Pr) (d : List Nat) : text (raw s d) = text s ++ d := by
  unfold text raw; simp [List.append_assoc]

theorem overflow_raw (s : Pr) (d : List Nat) : (raw s d).overflow = s.overflow := rfl

/-- Overflow is sticky and only ever raised by the fixed-buffer flush. -/
theorem overflow_flush (s : Pr) (all : Bool) :
    (flush s all).overflow = (s.overflow || (s.mode == .fixed && decide (s.buf.length ≥ s.flushSize))) := by
  unfold flush
  cases hm : s.mode with
  | file => simp only []; split <;> exact (Bool.or_false _).symm
  | fixed =>
    simp only []
    split
    · rename_i h; simp only [h, decide_true, Bool.or_true, beq_self_eq_true, Bool.and_self]
    · rename_i h; simp only [h, decide_false, Bool.and_false, Bool.or_false]
  | dynamic => simp only []; split <;> exact (Bool.or_false _).symm

theorem flush_ok (s : Pr) (all : Bool) (t : List Nat) (h : TextOK s t) : TextOK (flush s all) t := by
  rcases h with h | rfl
  · exact Or.inl (by rw [overflow_flush, h, Bool.true_or])
  · unfold flush
    cases hm : s.mode with
    | file =>
      simp only []
      split
      · right; simp [text, List.append_assoc]
      · right; simp [text]
    | fixed =>
      simp only []
      split
      · left; rfl
      · right; rfl
    | dynamic =>
      simp only []
      split
      · right; rfl
      · right; rfl

theorem raw_ok (s : Pr) (d : List Nat) (t : List Nat) (h : TextOK s t) : TextOK (raw s d) (t ++ d) := by
  rcases h with h | h
  · left; exact h
  · right; rw [text_raw, h]

theorem overflow_flush_of_not_fixed (s : Pr) (all : Bool) (hm : s.mode ≠ .fixed) : (flush s all).overflow = s.overflow := by
  simp [overflow_flush, hm]

theorem mode_flush (s : Pr) (all : Bool) : (flush s all).mode = s.mode := by
  unfold flush
  split <;> split <;> rfl

/-- `s'` is reached from `s` by unchecked writes and flushes, the writes adding up to `d` -/
inductive Run : Pr → List Nat → Pr → Prop
  | done (s : Pr) : Run s [] s
  | write {s s' : Pr} {w : List Nat} (d : List Nat) : Run (raw s d) w s' → Run s (d ++ w) s'
  | flushed {s s' : Pr} {w : List Nat} (all : Bool) : Run (flush s all) w s' → Run s w s'

theorem Run.raw (s : Pr) (d : List Nat) : Run s d (raw s d) := by
  simpa using Run.write d (Run.done (PrintFlush.raw s d))

theorem Run.flushIf {s s' : Pr} {w : List Nat} {c : Prop} [Decidable c] {all : Bool}
    (h : Run (if c then flush s all else s) w s') : Run s w s' := by
  split at h
  · exact .flushed all h
  · exact h

theorem Run.textOK {s s' : Pr} {d : List Nat} (h : Run s d s') : ∀ t, TextOK s t → TextOK s' (t ++ d) := by
  induction h with
  | done s => intro t h; simpa using h
  | write d _ ih => intro t h; simpa [List.append_assoc] using ih _ (raw_ok _ d t h)
  | flushed all _ ih => intro t h; exact ih t (flush_ok _ all t h)

theorem Run.overflow {s s' : Pr} {d : List Nat} (h : Run s d s') (hm : s.mode ≠ .fixed) : s'.overflow = s.overflow := by
  induction h with
  | done s => rfl
  | write d _ ih => exact ih hm
  | flushed all _ ih => rw [ih (by rw [mode_flush]; exact hm), overflow_flush_of_not_fixed _ all hm]

theorem printExLoop_run : ∀ fuel (s : Pr) (d : List Nat), ∃ d', d' <+: d ∧ Run s d' (printExLoop fuel s d) := by
  intro fuel
  induction fuel with
  | zero => intro s d; exact ⟨[], List.nil_prefix, .done s⟩
  | succ fuel ih =>
    intro s d
    unfold printExLoop
    simp only []
    generalize s.flushSize - s.buf.length = k
    split
    · obtain ⟨d', ⟨r, hr⟩, hrun⟩ := ih (flush (raw s (d.take k)) false) (d.drop k)
      exact ⟨d.take k ++ d', ⟨r, by rw [List.append_assoc, hr, List.take_append_drop]⟩, .write _ (.flushed false hrun)⟩
    · exact ⟨d, List.prefix_refl d, .raw s d⟩

theorem printEx_run (s : Pr) (d : List Nat) : ∃ d', d' <+: d ∧ Run s d' (printEx s d) := by
  have h : ∀ s0 : Pr, ∃ d', d' <+: d ∧ Run s0 d' (if s0.flushSize = 0 then s0 else printExLoop (2 * d.length + 2) s0 d) := by
    intro s0
    split
    · exact ⟨[], List.nil_prefix, .done s0⟩
    · exact printExLoop_run _ s0 d
  have ⟨d', hp, hr⟩ := h (if s.buf.length ≥ s.flushSize then flush s false else s)
  exact ⟨d', hp, .flushIf hr⟩

theorem stepEv_run (s : Pr) (e : Ev) : ∃ d', d' <+: evBytes e ∧ Run s d' (stepEv s e) := by
  cases e with
  | raw d => exact ⟨d, List.prefix_refl d, .raw s d⟩
  | print d =>
    dsimp only [stepEv, evBytes]
    unfold print
    split
    · exact printEx_run s d
    · exact ⟨d, List.prefix_refl d, .raw s d⟩
  | indent n =>
    dsimp only [stepEv, evBytes]
    split
    · exact printEx_run s _
    · exact ⟨_, List.prefix_refl _, .raw s _⟩
  | fpartial => exact ⟨[], List.nil_prefix, .flushIf (.done _)⟩
  | flushAll => exact ⟨[], List.nil_prefix, .flushed true (.done _)⟩

end Flatcc.PrintFlush
