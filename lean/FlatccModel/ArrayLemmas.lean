/-! Array facts the models' proofs share and core Lean states only for `getElem` / `getElem?`. -/
namespace Flatcc

theorem getElem!_setIfInBounds {α} [Inhabited α] (a : Array α) (i k : Nat) (x : α) (hi : i < a.size) :
    (a.setIfInBounds i x)[k]! = if k = i then x else a[k]! := by
  rw [Array.getElem!_eq_getD, Array.getElem!_eq_getD, Array.getD_eq_getD_getElem?, Array.getD_eq_getD_getElem?,
    Array.getElem?_setIfInBounds]
  split
  · next h => subst h; simp
  · next h => rw [if_neg (Ne.symm h)]

end Flatcc
