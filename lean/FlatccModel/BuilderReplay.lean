import FlatccModel.Builder
/-! # Replay of the builder's emit record, and the builder's low-level interface as operations -/
namespace Flatcc.Builder

/-- one recorded call against the range `[st, en)` reached so far -/
def stepOK (se : Int × Int) (e : Int × Nat) : Option (Int × Int) :=
  if e.1 = se.1 - (e.2 : Int) ∧ e.1 < se.1 then some (e.1, se.2)        -- front: strictly downward
  else if e.1 = se.2 ∧ 0 < e.2 then some (se.1, se.2 + (e.2 : Int))     -- back: strictly upward from the end
  else none

/-- replay a record (newest call first, as `BS.emits` keeps it) from the empty range -/
def replay : List (Int × Nat) → Option (Int × Int)
  | [] => some (0, 0)
  | e :: rest => (replay rest).bind (fun se => stepOK se e)

/-- the record describes exactly the range the builder believes it has emitted -/
def Tiled (s : BS) : Prop := replay s.emits = some (s.emitStart, s.emitEnd)

/-- the operations of the builder's low-level interface, with arbitrary arguments -/
inductive BOp
  | str (data : List Nat)
  | vec (data : List Nat) (count align : Nat)
  | ovec (refs : List Int)
  | struct (data : List Nat) (align : Nat)
  | table (fields : List (Nat × FieldVal))
  | embed (data : List Nat) (align blockAlign : Nat) (withSize : Bool)
  | startBuf (blockAlign : Nat) (withSize : Bool)
  | endBuf (ident : List Nat) (rootRef : Int)
  | clustering (on : Bool)

/-- the builder and its stack of buffer frames (the enclosing buffers' saved settings) -/
def stepOp (st : BS × List BS) : BOp → BS × List BS
  | .str d => ((createString st.1 d).1, st.2)
  | .vec d c a => ((createVector st.1 d c a).1, st.2)
  | .ovec r => ((createOffsetVector st.1 r).1, st.2)
  | .struct d a => (if d = [] then st.1 else (createStruct st.1 d a).1, st.2)     -- an empty struct image is refused by emit_front
  | .table f => ((endTable st.1 f).1, st.2)
  | .embed d a b w => ((embedBuffer st.1 d a b w).1, st.2)
  | .startBuf b w => (startBuffer st.1 b w, st.1 :: st.2)
  | .endBuf id r => match st.2 with
    | [] => st
    | saved :: rest => ((endBuffer saved st.1 id r).1, rest)
  | .clustering on => ({ st.1 with clustering := on }, st.2)

def runOps (ops : List BOp) : BS × List BS := ops.foldl stepOp (initBS, [])

end Flatcc.Builder
