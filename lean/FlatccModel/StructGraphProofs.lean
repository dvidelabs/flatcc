import FlatccModel.StructGraph
/-! Proofs about `analyze_struct`'s model: the closing order is topological, failures leave a diagnostic. -/
namespace Flatcc.StructGraph
open Flatcc.Consts

/-- every closed struct refers only to structs closed before it: the closing order is a topological order -/
def Topo (g : Graph) (order : List Nat) : Prop :=
  ∀ k (hk : k < order.length), ∀ j, some j ∈ members g order[k] → j ∈ order.take k

theorem topo_snoc (g : Graph) (L : List Nat) (i : Nat) (h : Topo g L) (hi : ∀ j, some j ∈ members g i → j ∈ L) :
    Topo g (L ++ [i]) := by
  intro k hk j hj
  rw [List.length_append] at hk
  rcases Nat.lt_succ_iff_lt_or_eq.mp hk with hlt | rfl
  · rw [List.getElem_append_left hlt] at hj
    rw [List.take_append_of_le_length (Nat.le_of_lt hlt)]
    exact h k hlt j hj
  · simp at hj ⊢
    exact hi j hj

theorem topo_nil (g : Graph) : Topo g [] := by intro k hk; simp at hk

/-- the order part of `aspec`, for any call (`asound`) -/
def ASound (g : Graph) (fuel : Nat) : Prop :=
  ∀ level i st st' b, Topo g st.order → analyze g fuel level i st = (st', b) →
    Topo g st'.order ∧ st.order <+: st'.order ∧ (b = true → i ∈ st'.order)

/-- what any call does, whatever its verdict `b`: the closing order grows and stays topological; a success leaves the
open set and the diagnostics as they were -/
structure Effect (g : Graph) (st st' : St) (b : Bool) : Prop where
  topo : Topo g st.order → Topo g st'.order
  pre : st.order <+: st'.order
  ok : b = true → st'.opened = st.opened ∧ st'.diags = st.diags

theorem Effect.refl {g : Graph} {st : St} {b : Bool} : Effect g st st b :=
  ⟨id, List.prefix_refl _, fun _ => ⟨rfl, rfl⟩⟩

theorem Effect.diag {g : Graph} {st : St} {x : Diag} : Effect g st { st with diags := st.diags ++ [x] } false :=
  ⟨id, List.prefix_refl _, Bool.noConfusion⟩

theorem Effect.seq {g : Graph} {st st1 st' : St} {b : Bool} (h1 : Effect g st st1 true) (h2 : Effect g st1 st' b) :
    Effect g st st' b :=
  ⟨h2.topo ∘ h1.topo, h1.pre.trans h2.pre, fun hb => by rw [(h2.ok hb).1, (h2.ok hb).2]; exact h1.ok rfl⟩

/-- `analyze` with fuel `f`: a success has closed `i`. Last clause: with fuel for every level up to the nesting limit a
failure is a real one — a new diagnostic, or `i` found open and nothing changed — and not the fuel running out.
(`analyzeAll` gives `nestingMax + 2` at level 0; the proofs would go through with `+ 1` here and `+ 0` in `MSpec`:
one unit is spare.) -/
def ASpec (g : Graph) (f : Nat) : Prop :=
  ∀ level i st st' b, analyze g f level i st = (st', b) →
    Effect g st st' b ∧ (b = true → i ∈ st'.order) ∧
    (b = false → level ≤ nestingMax → nestingMax + 2 ≤ level + f →
      (i ∈ st.opened ∧ st' = st) ∨ st.diags.length < st'.diags.length)

/-- the member loop over `analyze` with fuel `f`: a success has closed every struct member; a failure has left a
diagnostic (the silent failure of `analyze` cannot occur: the loop tests for an open member first) -/
def MSpec (g : Graph) (f : Nat) : Prop :=
  ∀ level ms st st' b, goMembers (analyze g f) level ms st = (st', b) →
    Effect g st st' b ∧ (b = true → ∀ j, some j ∈ ms → j ∈ st'.order) ∧
    (b = false → nestingMax + 1 ≤ level + f → st.diags.length < st'.diags.length)

theorem mspec_of_aspec (g : Graph) (f : Nat) (ha : ASpec g f) : MSpec g f := by
  intro level ms st
  fun_induction goMembers (analyze g f) level ms st with
  | case1 st =>  -- no member left
    intro st' b h
    cases h
    exact ⟨Effect.refl, fun _ _ hj => absurd hj List.not_mem_nil, Bool.noConfusion⟩
  | case2 m ms st hlev =>  -- too deep
    intro st' b h
    cases h
    exact ⟨Effect.diag, Bool.noConfusion, fun _ _ => by simp⟩
  | case3 ms st hlev ih =>  -- a scalar member
    intro st' b h
    obtain ⟨e, hin, hf⟩ := ih st' b h
    exact ⟨e, fun hb j hj => hin hb j (by simpa using hj), hf⟩
  | case4 ms st hlev j hjo =>  -- struct `j` is open: circular
    intro st' b h
    cases h
    exact ⟨Effect.diag, Bool.noConfusion, fun _ _ => by simp⟩
  | case5 ms st hlev j hjo hjc ih =>  -- `j` is closed already
    intro st' b h
    obtain ⟨e, hin, hf⟩ := ih st' b h
    refine ⟨e, fun hb x hx => ?_, hf⟩
    rcases List.mem_cons.mp hx with hx | hx
    · cases hx; exact e.pre.subset hjc
    · exact hin hb x hx
  | case6 ms st hlev j hjo hjc st1 hres =>  -- the analysis of `j` fails
    intro st' b h
    cases h
    obtain ⟨e1, -, hf1⟩ := ha (level + 1) j st st1 false hres
    refine ⟨e1, Bool.noConfusion, fun _ hl => ?_⟩
    have hfuel : nestingMax + 2 ≤ level + 1 + f := Nat.add_right_comm .. ▸ Nat.succ_le_succ hl
    exact (hf1 rfl (Nat.lt_of_not_le hlev) hfuel).resolve_left fun ho => hjo ho.1
  | case7 ms st hlev j hjo hjc st1 hres ih =>  -- the analysis of `j` succeeds
    intro st' b h
    obtain ⟨e1, hj1, -⟩ := ha (level + 1) j st st1 true hres
    obtain ⟨e, hin, hf⟩ := ih st' b h
    refine ⟨e1.seq e, fun hb x hx => ?_, fun hb hl => ?_⟩
    · rcases List.mem_cons.mp hx with hx | hx
      · cases hx; exact e.pre.subset (hj1 rfl)
      · exact hin hb x hx
    · rw [← (e1.ok rfl).2]; exact hf hb hl

theorem aspec_succ (g : Graph) (f : Nat) (hm : MSpec g f) : ASpec g (f + 1) := by
  intro level i st st' b h
  unfold analyze at h
  by_cases hio : i ∈ st.opened
  · rw [if_pos hio] at h
    cases h
    exact ⟨Effect.refl, Bool.noConfusion, fun _ _ _ => Or.inl ⟨hio, rfl⟩⟩
  rw [if_neg hio] at h
  by_cases hic : i ∈ st.order
  · rw [if_pos hic] at h
    cases h
    exact ⟨Effect.refl, fun _ => hic, Bool.noConfusion⟩
  rw [if_neg hic] at h
  dsimp only at h
  generalize hres : goMembers _ _ _ _ = r at h
  obtain ⟨st1, b1⟩ := r
  obtain ⟨e1, hall, hf1⟩ := hm level (members g i) _ st1 b1 hres
  cases b1 with
  | false =>
    cases h
    exact ⟨⟨e1.topo, e1.pre, Bool.noConfusion⟩, Bool.noConfusion,
      fun _ _ hl => Or.inr (hf1 rfl (Nat.le_of_succ_le_succ hl))⟩
  | true =>
    obtain ⟨ho, hd⟩ := e1.ok rfl
    dsimp only at h
    by_cases hemp : (members g i).isEmpty = true
    · rw [if_pos hemp] at h
      cases h
      exact ⟨⟨e1.topo, e1.pre, Bool.noConfusion⟩, Bool.noConfusion, fun _ _ _ => Or.inr (by simp [hd])⟩
    · rw [if_neg hemp] at h
      cases h
      have hopen : st1.opened.erase i = st.opened := by simp [ho]
      exact ⟨⟨fun t => topo_snoc g _ i (e1.topo t) (hall rfl), e1.pre.trans (List.prefix_append _ _), fun _ => ⟨hopen, hd⟩⟩,
        fun _ => List.mem_concat_self, Bool.noConfusion⟩

theorem aspec (g : Graph) : ∀ f, ASpec g f
  | 0 => by
    -- fuel 0 would need a level above the nesting limit, where the member loop has already refused
    intro level i st st' b h
    cases h
    exact ⟨Effect.refl, Bool.noConfusion, fun _ _ _ => by omega⟩
  | f + 1 => aspec_succ g f (mspec_of_aspec g f (aspec g f))

theorem asound (g : Graph) : ∀ fuel, ASound g fuel := fun fuel level i st st' b ht h =>
  have ⟨e, hin, _⟩ := aspec g fuel level i st st' b h
  ⟨e.topo ht, e.pre, hin⟩

/-- fuel is never what stops the recursion -/
def AInv (g : Graph) (f : Nat) : Prop :=
  ∀ level i st st' b, level ≤ nestingMax → level + f ≥ nestingMax + 2 → analyze g f level i st = (st', b) →
    (b = true → st'.opened = st.opened ∧ st'.diags = st.diags) ∧
    (b = false → (i ∈ st.opened ∧ st' = st) ∨ st.diags.length < st'.diags.length)

theorem ainv (g : Graph) : ∀ f, AInv g f := fun f level i st st' b hl hf h =>
  have ⟨e, _, hfail⟩ := aspec g f level i st st' b h
  ⟨e.ok, fun hb => hfail hb hl hf⟩

/-- the loop invariant of the schema-level pass after `k` structs: no diagnostic so far means nothing is open and
all `k` are closed -/
def Good (g : Graph) (st : St) (k : Nat) : Prop :=
  Topo g st.order ∧ (st.diags = [] → st.opened = [] ∧ ∀ i, i < k → i ∈ st.order)

theorem good_step (g : Graph) (st : St) (k : Nat) (h : Good g st k) :
    Good g (analyze g (nestingMax + 2) 0 k st).1 (k + 1) := by
  obtain ⟨st', b, hres⟩ : ∃ st' b, analyze g (nestingMax + 2) 0 k st = (st', b) := ⟨_, _, rfl⟩
  rw [hres]
  obtain ⟨e, hin, hfail⟩ := aspec g _ 0 k st st' b hres
  refine ⟨e.topo h.1, fun hd => ?_⟩
  cases b with
  | true =>
    obtain ⟨ho, hdg⟩ := e.ok rfl
    obtain ⟨hop, hall⟩ := h.2 (hdg ▸ hd)
    refine ⟨ho ▸ hop, fun i hi => ?_⟩
    rcases Nat.lt_succ_iff_lt_or_eq.mp hi with hlt | rfl
    · exact e.pre.subset (hall i hlt)
    · exact hin rfl
  | false =>
    -- a failure leaves a diagnostic (the struct cannot be open here: no diagnostic so far means nothing is open)
    exfalso
    rcases hfail rfl (Nat.zero_le _) (Nat.le_add_left ..) with ⟨ho, he⟩ | hl
    · subst he
      rw [(h.2 hd).1] at ho; cases ho
    · rw [hd] at hl; simp at hl

theorem good_fold (g : Graph) (n : Nat) :
    Good g ((List.range n).foldl (fun st i => (analyze g (nestingMax + 2) 0 i st).1) {}) n := by
  induction n with
  | zero => exact ⟨topo_nil g, fun _ => ⟨rfl, fun i hi => by omega⟩⟩
  | succ k ih =>
    rw [List.range_succ, List.foldl_append]
    exact good_step g _ k ih

end Flatcc.StructGraph
