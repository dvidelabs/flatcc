import FlatccModel.RefmapFault
import FlatccModel.RefmapCoreProofs
/-!
For every hash function and every history of public calls, the executable model of
`src/runtime/refmap.c` (`Refmap.lean`) agrees with the abstract map `spec`, and the rehash loop
inside `resize` never itself exceeds the load factor.
-/
namespace Flatcc.Refmap

/-- number of occupied slots (`src ≠ 0`) in a slot list -/
def nz : List Slot → Nat
  | [] => 0
  | x :: r => (if x.1 = 0 then 0 else 1) + nz r

theorem nz_eq_countP (L : List Slot) : nz L = L.countP (fun x => x.1 != 0) := by
  induction L with
  | nil => rfl
  | cons x r ih =>
    rw [nz, List.countP_cons, ih, Nat.add_comm]
    by_cases h : x.1 = 0
    · simp [h]
    · simp [h]

theorem nz_replicate (n : Nat) : nz (List.replicate n ((0, 0) : Slot)) = 0 := by
  rw [nz_eq_countP, List.countP_replicate]; rfl

theorem nz_le_length (L : List Slot) : nz L ≤ L.length := by
  rw [nz_eq_countP]; exact List.countP_le_length

theorem nz_set (L : List Slot) (j : Nat) (v : Slot) (hj : j < L.length) :
    nz (L.set j v) + (if L[j].1 = 0 then 0 else 1) = nz L + (if v.1 = 0 then 0 else 1) := by
  have hle := List.boole_getElem_le_countP (p := fun x : Slot => x.1 != 0) hj
  rw [nz_eq_countP, nz_eq_countP, List.countP_set hj]
  simp only [bne_iff_ne, ne_eq, ite_not] at hle ⊢
  rw [Nat.add_right_comm, Nat.sub_add_cancel hle]

theorem nz_zero_all (L : List Slot) (h : nz L = 0) : ∀ x ∈ L, x.1 = 0 := by
  rw [nz_eq_countP, List.countP_eq_zero] at h
  intro x hx
  simpa using h x hx

theorem toList_getElem (s : RM) (j : Nat) (hj : j < s.table.toList.length) :
    s.table.toList[j] = (srcAt s j, refAt s j) := by
  have hj' : j < s.table.size := by simpa using hj
  unfold srcAt refAt
  rw [getElem!_pos s.table j hj', Array.getElem_toList]

theorem mem_table (s : RM) (x : Slot) :
    x ∈ s.table.toList ↔ ∃ j, j < s.table.size ∧ (srcAt s j, refAt s j) = x := by
  rw [List.mem_iff_getElem]
  constructor
  · rintro ⟨j, hj, rfl⟩
    exact ⟨j, by simpa using hj, (toList_getElem s j hj).symm⟩
  · rintro ⟨j, hj, rfl⟩
    exact ⟨j, by simpa using hj, toList_getElem s j _⟩

theorem exists_empty (s : RM) (hsz : s.table.size = s.buckets) (h : nz s.table.toList < s.buckets) :
    ∃ e, e < s.buckets ∧ srcAt s e = 0 := by
  apply Classical.byContradiction
  intro hn
  -- otherwise every slot counts
  have hall : ∀ x ∈ s.table.toList, (fun x : Slot => x.1 != 0) x = true := by
    intro x hx
    obtain ⟨e, he, rfl⟩ := (mem_table s x).mp hx
    simp only [bne_iff_ne]
    exact fun h0 => hn ⟨e, hsz ▸ he, h0⟩
  rw [nz_eq_countP, List.countP_eq_length.mpr hall, Array.length_toList, hsz] at h
  exact Nat.lt_irrefl _ h

theorem find_of_mem (hash : Nat → Nat) (s : RM) (I : Inv hash s) (x : Slot) (hx : x ∈ s.table.toList) (h0 : x.1 ≠ 0) :
    find hash s x.1 = x.2 := by
  obtain ⟨t, ht, rfl⟩ := (mem_table s x).mp hx
  exact find_present hash s I t (I.size ▸ ht) h0

theorem find_of_not_mem (hash : Nat → Nat) (s : RM) (I : Inv hash s) (k : Nat)
    (h : ∀ x ∈ s.table.toList, x.1 ≠ 0 → x.1 ≠ k) : find hash s k = 0 := by
  apply find_none hash s I
  intro t ht e
  apply Classical.byContradiction; intro hk
  exact h _ ((mem_table s _).mpr ⟨t, I.size ▸ ht, rfl⟩) (fun h0 => hk (e.symm.trans h0)) e

theorem find_of_count_zero (hash : Nat → Nat) (s : RM) (I : Inv hash s) (h : nz s.table.toList = 0) (k : Nat) :
    find hash s k = 0 :=
  find_of_not_mem hash s I k (fun x hx h0 => absurd (nz_zero_all _ h x hx) h0)

theorem nz_insertCore (hash : Nat → Nat) (s : RM) (I : Inv hash s) (src : Nat) (ref : Int) (hsrc : src ≠ 0) :
    nz (insertCore hash s src ref).table.toList =
      nz s.table.toList + (if srcAt s (walk s (hash src) src 0 s.buckets) = 0 then 1 else 0) := by
  have hj : walk s (hash src) src 0 s.buckets < s.table.toList.length := by
    rw [Array.length_toList, I.size]; exact walk_lt hash s I _ _
  have hn := nz_set s.table.toList _ (src, ref) hj
  rw [toList_getElem s _ hj] at hn
  show nz (s.table.setIfInBounds _ _).toList = _
  rw [Array.toList_setIfInBounds]
  simp only [hsrc, if_false] at hn
  by_cases h : srcAt s (walk s (hash src) src 0 s.buckets) = 0
  · rw [if_pos h] at hn ⊢
    exact hn
  · rw [if_neg h] at hn ⊢
    exact Nat.add_right_cancel hn

theorem aboveLoad_false_iff (c b : Nat) : aboveLoad c b = false ↔ c < b * loadN / 256 :=
  decide_eq_false_iff_not.trans Nat.not_le

theorem aboveLoad_room (c b : Nat) (h : aboveLoad c b = false) : c + 2 ≤ b := by
  rw [aboveLoad_false_iff, loadN] at h
  have h1 : (c + 1) * 256 ≤ b * 179 := (Nat.le_div_iff_mul_le (by decide)).1 h
  -- the load factor is below 1: were `b ≤ c + 1`, then `(c + 1) * 256 ≤ b * 179 ≤ (c + 1) * 179`
  apply Nat.lt_of_not_le
  intro hb
  have h2 : (c + 1) * 256 ≤ (c + 1) * 179 := Nat.le_trans h1 (Nat.mul_le_mul_right 179 hb)
  exact absurd (Nat.le_of_mul_le_mul_left h2 (Nat.succ_pos c)) (by decide)

theorem aboveLoad_mono (c c' b : Nat) (hc : c ≤ c') (h : aboveLoad c' b = false) : aboveLoad c b = false := by
  rw [aboveLoad_false_iff] at *; exact Nat.lt_of_le_of_lt hc h

/-- `fuel` doublings from `b` reach a bucket count below the load factor: each adds at least `minBuckets` -/
theorem growLoop_spec (count : Nat) : ∀ (fuel b : Nat), minBuckets ≤ b →
    minBuckets * count + minBuckets ≤ b + minBuckets * fuel →
    minBuckets ≤ growLoop count fuel b ∧ aboveLoad count (growLoop count fuel b) = false := by
  unfold minBuckets
  intro fuel
  induction fuel with
  | zero =>
    intro b hb h
    refine ⟨hb, ?_⟩
    unfold growLoop
    -- omega is slow on the division; `h` is `8 * (count + 1) ≤ b`, and 256 is 8 * 32 with 32 ≤ 179
    have h1 : 8 * (count + 1) * 32 ≤ b * 179 := Nat.mul_le_mul h (by decide)
    rw [Nat.mul_comm 8, Nat.mul_assoc] at h1
    rw [aboveLoad_false_iff, loadN]
    exact (Nat.le_div_iff_mul_le (by decide)).2 h1
  | succ fuel ih =>
    intro b hb h
    unfold growLoop
    by_cases c : aboveLoad count b = true
    · simp only [c, if_true]
      -- one doubling: `b * 2 = b + b` is `b` and at least 8 more, which pays for the unit of fuel spent
      have hb2 : 8 ≤ b * 2 := Nat.le_trans hb (Nat.le_mul_of_pos_right b (by decide))
      have h2 : b + 8 * (fuel + 1) ≤ b * 2 + 8 * fuel := by
        rw [Nat.mul_two, Nat.add_right_comm]; exact Nat.add_le_add_left hb _
      exact ih (b * 2) hb2 (Nat.le_trans h h2)
    · simp only [c]
      exact ⟨hb, eq_false_of_ne_true c⟩

theorem growLoop_ok (count : Nat) :
    minBuckets ≤ growLoop count (count + 64) minBuckets ∧
      aboveLoad count (growLoop count (count + 64) minBuckets) = false :=
  growLoop_spec count (count + 64) minBuckets (Nat.le_refl _) (by unfold minBuckets; omega)

/-- a map with an allocated table: probe invariant, and `count` is the number of occupied slots -/
structure GoodT (hash : Nat → Nat) (m : Map) : Prop where
  inv : Inv hash m.rm
  cnt : m.count = nz m.rm.table.toList

/-- reachable states: never a nested resize; either no table at all (initial / cleared) or `GoodT` -/
def Good (hash : Nat → Nat) (m : Map) : Prop :=
  m.nested = false ∧ ((m.rm.buckets = 0 ∧ m.count = 0 ∧ m.rm.table = #[]) ∨ GoodT hash m)

theorem find'_eq (hash : Nat → Nat) (m : Map) (G : GoodT hash m) (k : Nat) : find' hash m k = find hash m.rm k := by
  unfold find'
  split
  · next h => rw [find_of_count_zero hash m.rm G.inv (G.cnt ▸ h)]
  · rfl

theorem find'_empty (hash : Nat → Nat) (m : Map) (h : m.count = 0) (k : Nat) : find' hash m k = 0 :=
  if_pos h

theorem insertSlot_eq (hash : Nat → Nat) (m : Map) (src : Nat) (ref : Int) :
    insertSlot hash m src ref =
      { m with count := m.count + (if srcAt m.rm (walk m.rm (hash src) src 0 m.rm.buckets) = 0 then 1 else 0),
               rm := insertCore hash m.rm src ref } := by
  unfold insertSlot insertCore
  simp only []
  split <;> rfl

theorem insertSlot_spec (hash : Nat → Nat) (m : Map) (G : GoodT hash m) (src : Nat) (ref : Int) (hsrc : src ≠ 0)
    (hroom : m.count + 2 ≤ m.rm.buckets) :
    GoodT hash (insertSlot hash m src ref) ∧
    ∀ k, find hash (insertSlot hash m src ref).rm k = if k = src then ref else find hash m.rm k := by
  have hn := nz_insertCore hash m.rm G.inv src ref hsrc
  rw [insertSlot_eq]
  obtain ⟨I', hfind⟩ := insertCore_spec hash m.rm G.inv src ref hsrc (by
    -- the count leaves room, so the new table still has an empty slot
    refine exists_empty (insertCore hash m.rm src ref) (Array.size_setIfInBounds.trans G.inv.size) ?_
    rw [hn, ← G.cnt]
    split
    · exact Nat.lt_of_succ_le hroom
    · exact Nat.lt_of_succ_lt (Nat.lt_of_succ_le hroom))
  exact ⟨⟨I', by rw [hn, G.cnt]⟩, hfind⟩

theorem insertSlot_count_le (hash : Nat → Nat) (m : Map) (src : Nat) (ref : Int) :
    (insertSlot hash m src ref).count ≤ m.count + 1 := by
  rw [insertSlot_eq]
  exact Nat.add_le_add_left (by split <;> decide) _

/-- the body of the rehash loop of `resize` -/
def rehashStep (hash : Nat → Nat) (acc : Map) (slot : Slot) : Map :=
  if slot.1 = 0 then acc
  else
    let acc := if aboveLoad acc.count acc.rm.buckets then { acc with nested := true } else acc
    insertSlot hash acc slot.1 slot.2

def freshMap (buckets : Nat) (nested : Bool) : Map :=
  { count := 0, rm := { buckets := buckets, table := Array.replicate buckets (0, 0) }, nested := nested }

/-- `resize` with the rehash loop over the slot list: the form the proofs use, and the one to evaluate, since the
kernel runs `Array.foldl` over a table in time quadratic in its size. `targetBuckets` (RefmapFault.lean) names the bucket count
`resize` computes inline. -/
def resizeL (hash : Nat → Nat) (m : Map) (n : Nat) : Map :=
  if m.rm.buckets = targetBuckets m n then m
  else m.rm.table.toList.foldl (rehashStep hash) (freshMap (targetBuckets m n) m.nested)

theorem resize_eq (hash : Nat → Nat) (m : Map) (n : Nat) : resize hash m n = resizeL hash m n := by
  unfold resize
  simp only [← Array.foldl_toList]
  rfl

theorem fresh_good (hash : Nat → Nat) (b : Nat) (nested : Bool) (hb : 0 < b) : GoodT hash (freshMap b nested) :=
  ⟨Inv_replicate hash b hb, (nz_replicate b).symm⟩

/-- the rehash loop of `resize` over the rest `L` of the old slot list, into `acc`. `C` is the element count the new
table was sized for and `B` its bucket count; `f` is any reading of the slots stored (for `resize`, the old table's
`find'`). Last conjunct: a key is either rehashed already and answers `f`, or no slot of `L` holds it and it answers as
in `acc`. -/
theorem rehash_fold (hash : Nat → Nat) (f : Nat → Int) (C B : Nat) (hC : aboveLoad C B = false) :
    ∀ (L : List Slot) (acc : Map), GoodT hash acc → acc.rm.buckets = B → acc.count + nz L ≤ C →
      (∀ x ∈ L, x.1 ≠ 0 → f x.1 = x.2) →
      GoodT hash (L.foldl (rehashStep hash) acc) ∧
      (L.foldl (rehashStep hash) acc).rm.buckets = B ∧
      (L.foldl (rehashStep hash) acc).count ≤ acc.count + nz L ∧
      (L.foldl (rehashStep hash) acc).nested = acc.nested ∧
      ∀ k, find hash (L.foldl (rehashStep hash) acc).rm k = f k ∨
        ((∀ x ∈ L, x.1 ≠ 0 → x.1 ≠ k) ∧ find hash (L.foldl (rehashStep hash) acc).rm k = find hash acc.rm k) := by
  intro L
  induction L with
  | nil => intro acc G hB _ _; exact ⟨G, hB, Nat.le_refl _, rfl, fun _ => Or.inr ⟨fun _ h => (nomatch h), rfl⟩⟩
  | cons x L ih =>
    intro acc G hB hcnt hf
    rw [List.foldl_cons]
    obtain ⟨hfx, hfL⟩ := List.forall_mem_cons.mp hf
    by_cases hx : x.1 = 0
    · have e : rehashStep hash acc x = acc := if_pos hx
      have hn : nz (x :: L) = nz L := by simp [nz, hx]
      rw [e]
      rw [hn] at hcnt ⊢
      obtain ⟨b1, b2, b3, b4, b5⟩ := ih acc G hB hcnt hfL
      refine ⟨b1, b2, b3, b4, fun k => (b5 k).imp_right ?_⟩
      rintro ⟨hno, h⟩
      exact ⟨List.forall_mem_cons.mpr ⟨fun h0 => absurd hx h0, hno⟩, h⟩
    · have hn : nz (x :: L) = 1 + nz L := by simp [nz, hx]
      rw [hn] at hcnt ⊢
      have hload : aboveLoad acc.count acc.rm.buckets = false := by
        rw [hB]; exact aboveLoad_mono _ _ _ (Nat.le_trans (Nat.le_add_right _ _) hcnt) hC
      have e : rehashStep hash acc x = insertSlot hash acc x.1 x.2 := by
        unfold rehashStep; simp [hx, hload]
      rw [e]
      have hc : (insertSlot hash acc x.1 x.2).count + nz L ≤ acc.count + (1 + nz L) := by
        rw [← Nat.add_assoc]; exact Nat.add_le_add_right (insertSlot_count_le hash acc x.1 x.2) _
      obtain ⟨G', hfind⟩ := insertSlot_spec hash acc G x.1 x.2 hx (aboveLoad_room _ _ hload)
      obtain ⟨b1, b2, b3, b4, b5⟩ := ih (insertSlot hash acc x.1 x.2) G'
        (by rw [insertSlot_eq]; exact hB) (Nat.le_trans hc hcnt) hfL
      refine ⟨b1, b2, Nat.le_trans b3 hc, by rw [b4, insertSlot_eq], fun k => ?_⟩
      rcases b5 k with h | ⟨hno, h⟩
      · exact Or.inl h
      · rw [hfind] at h
        by_cases hk : k = x.1
        · rw [if_pos hk] at h
          exact Or.inl (by rw [h, hk, hfx hx])
        · rw [if_neg hk] at h
          exact Or.inr ⟨List.forall_mem_cons.mpr ⟨fun _ e => hk e.symm, hno⟩, h⟩

theorem resize_spec (hash : Nat → Nat) (m : Map) (n : Nat) (G : Good hash m) :
    GoodT hash (resize hash m n) ∧ (resize hash m n).nested = false ∧
    aboveLoad (resize hash m n).count (resize hash m n).rm.buckets = false ∧
    ∀ k, find' hash (resize hash m n) k = find' hash m k := by
  rw [resize_eq]
  unfold resizeL targetBuckets
  have hCm : m.count ≤ (if n < m.count then m.count else n) := by
    split
    · exact Nat.le_refl _
    · next h => exact Nat.le_of_not_lt h
  generalize (if n < m.count then m.count else n) = C at hCm ⊢
  obtain ⟨hb8, hload⟩ := growLoop_ok C
  generalize growLoop C (C + 64) minBuckets = B at hb8 hload ⊢
  obtain ⟨hnest, hG⟩ := G
  split
  · -- the table has the target size already: nothing happens
    next hb =>
    rcases hG with ⟨h0, _, _⟩ | hT
    · exact absurd (h0 ▸ hb ▸ hb8 : minBuckets ≤ 0) (by decide)
    · exact ⟨hT, hnest, by rw [hb]; exact aboveLoad_mono _ _ _ hCm hload, fun _ => rfl⟩
  · -- rehash into a fresh table of `B` buckets. `hL`: what the old table (none, or a good one) gives `rehash_fold`:
    -- its count, and `find'` as the reading of its slots
    have hL : m.count = nz m.rm.table.toList ∧
        (∀ x ∈ m.rm.table.toList, x.1 ≠ 0 → find' hash m x.1 = x.2) ∧
        ∀ k, (∀ x ∈ m.rm.table.toList, x.1 ≠ 0 → x.1 ≠ k) → find' hash m k = 0 := by
      rcases hG with ⟨_, hc, ht⟩ | hT
      · rw [ht, hc]
        exact ⟨rfl, fun _ h => (nomatch h), fun k _ => find'_empty hash m hc k⟩
      · refine ⟨hT.cnt, fun x hx h0 => ?_, fun k h => ?_⟩
        · rw [find'_eq hash m hT]
          exact find_of_mem hash _ hT.inv x hx h0
        · rw [find'_eq hash m hT]
          exact find_of_not_mem hash _ hT.inv k h
    obtain ⟨hc, hf, hnone⟩ := hL
    have F := fresh_good hash B m.nested (Nat.lt_of_lt_of_le (by decide) hb8)
    have hle : (freshMap B m.nested).count + nz m.rm.table.toList ≤ C := by
      rw [← hc]
      exact Nat.le_trans (Nat.le_of_eq (Nat.zero_add _)) hCm
    obtain ⟨b1, b2, b3, b4, b5⟩ := rehash_fold hash (find' hash m) C B hload m.rm.table.toList (freshMap B m.nested)
      F rfl hle hf
    refine ⟨b1, b4.trans hnest, ?_, ?_⟩
    · rw [b2]; exact aboveLoad_mono _ _ _ (Nat.le_trans b3 hle) hload
    · intro k
      rw [find'_eq hash _ b1]
      rcases b5 k with h | ⟨hno, h⟩
      · exact h
      · rw [h, hnone k hno, find_of_count_zero hash _ F.inv F.cnt.symm]

theorem insert_spec (hash : Nat → Nat) (m : Map) (s : Nat) (r : Int) (G : Good hash m) :
    Good hash (insert hash m s r).1 ∧
    ∀ k, find' hash (insert hash m s r).1 k = if s = k ∧ s ≠ 0 then r else find' hash m k := by
  unfold insert
  by_cases hs : s = 0
  · simp [hs, G]
  simp only [hs, if_false]
  -- `m1`: the map after the growth the load factor may ask for
  generalize hm1 : (if aboveLoad m.count m.rm.buckets then resize hash m (m.count * 2) else m) = m1
  have h1 : GoodT hash m1 ∧ m1.nested = false ∧ aboveLoad m1.count m1.rm.buckets = false ∧
      ∀ k, find' hash m1 k = find' hash m k := by
    split at hm1
    · subst hm1
      exact resize_spec hash m (m.count * 2) G
    · next hl =>
      subst hm1
      have hl' := eq_false_of_ne_true hl
      refine ⟨?_, G.1, hl', fun _ => rfl⟩
      rcases G.2 with ⟨h0, _, _⟩ | hT
      · exact absurd (h0 ▸ aboveLoad_room _ _ hl' : m.count + 2 ≤ 0) (Nat.not_succ_le_zero _)
      · exact hT
  obtain ⟨g1, g2, g3, g4⟩ := h1
  obtain ⟨g', hfind⟩ := insertSlot_spec hash m1 g1 s r hs (aboveLoad_room _ _ g3)
  refine ⟨⟨by rw [insertSlot_eq]; exact g2, Or.inr g'⟩, fun k => ?_⟩
  rw [find'_eq hash _ g', hfind, ← find'_eq hash m1 g1, g4]
  by_cases hk : s = k
  · rw [if_pos hk.symm, if_pos ⟨hk, hs⟩]
  · rw [if_neg (fun e => hk e.symm), if_neg (fun h => hk h.1)]

theorem reset_spec (hash : Nat → Nat) (m : Map) (G : Good hash m) :
    Good hash (reset m) ∧ ∀ k, find' hash (reset m) k = 0 := by
  refine ⟨⟨G.1, ?_⟩, fun k => find'_empty hash _ rfl k⟩
  rcases G.2 with ⟨h0, hc, ht⟩ | hT
  · left
    refine ⟨h0, rfl, ?_⟩
    unfold reset; simp [hc, ht]
  · right
    by_cases hc : m.count = 0
    · have e : (reset m).rm = m.rm := by unfold reset; simp [hc]
      exact ⟨by rw [e]; exact hT.inv, by rw [e, ← hT.cnt, hc]; rfl⟩
    · have e : (reset m).rm = (freshMap m.rm.buckets false).rm := by unfold reset freshMap; simp [hc]
      have F := fresh_good hash m.rm.buckets false hT.inv.pos
      exact ⟨by rw [e]; exact F.inv, by rw [e, ← F.cnt]; rfl⟩

theorem init_good (hash : Nat → Nat) : Good hash Map.init := ⟨rfl, Or.inl ⟨rfl, rfl, rfl⟩⟩

theorem step_spec (hash : Nat → Nat) (m : Map) (op : Op) (rest : List Op) (G : Good hash m)
    (h : ∀ k, find' hash m k = spec rest k) :
    Good hash (step hash m op).1 ∧ ∀ k, find' hash (step hash m op).1 k = spec (op :: rest) k := by
  cases op with
  | ins s r =>
    obtain ⟨a, b⟩ := insert_spec hash m s r G
    refine ⟨a, fun k => ?_⟩
    show find' hash (insert hash m s r).1 k = if s = k ∧ s ≠ 0 then r else spec rest k
    rw [b, h]
  | fnd s => exact ⟨G, h⟩
  | rsz n =>
    obtain ⟨a1, a2, _, a5⟩ := resize_spec hash m n G
    exact ⟨⟨a2, Or.inr a1⟩, fun k => (a5 k).trans (h k)⟩
  | rst => exact reset_spec hash m G
  | clr => exact ⟨init_good hash, fun k => rfl⟩

/-- run a history (oldest first) from the initial map -/
def run (hash : Nat → Nat) (ops : List Op) : Map := ops.foldl (fun m op => (step hash m op).1) Map.init

theorem foldl_step_spec (hash : Nat → Nat) (ops : List Op) : ∀ (m : Map) (rest : List Op), Good hash m →
    (∀ k, find' hash m k = spec rest k) →
    Good hash (ops.foldl (fun m op => (step hash m op).1) m) ∧
    ∀ k, find' hash (ops.foldl (fun m op => (step hash m op).1) m) k = spec (ops.reverse ++ rest) k := by
  induction ops with
  | nil => exact fun _ _ G h => ⟨G, h⟩
  | cons op ops ih =>
    intro m rest G h
    rw [List.foldl_cons, List.reverse_cons, List.append_assoc]
    obtain ⟨G', h'⟩ := step_spec hash m op rest G h
    exact ih _ (op :: rest) G' h'

theorem run_spec (hash : Nat → Nat) (ops : List Op) :
    Good hash (run hash ops) ∧ ∀ k, find' hash (run hash ops) k = spec ops.reverse k := by
  have := foldl_step_spec hash ops Map.init [] (init_good hash) (fun _ => rfl)
  rwa [List.append_nil] at this

/-- `step` through `resizeL`, for evaluating histories -/
def stepL (hash : Nat → Nat) (m : Map) : Op → Map
  | .ins s r =>
    if s = 0 then m
    else insertSlot hash (if aboveLoad m.count m.rm.buckets then resizeL hash m (m.count * 2) else m) s r
  | .rsz n => resizeL hash m n
  | op => (step hash m op).1

theorem step_eq_stepL (hash : Nat → Nat) (m : Map) (op : Op) : (step hash m op).1 = stepL hash m op := by
  cases op with
  | ins s r =>
    show (insert hash m s r).1 = if s = 0 then m else _
    unfold insert
    by_cases hs : s = 0
    · rw [if_pos hs, if_pos hs]
    · rw [if_neg hs, if_neg hs, resize_eq]
  | rsz n => exact resize_eq hash m n
  | fnd s => rfl
  | rst => rfl
  | clr => rfl

theorem run_eq_foldl_stepL (hash : Nat → Nat) (ops : List Op) : run hash ops = ops.foldl (stepL hash) Map.init := by
  unfold run
  congr 1
  funext m op
  exact step_eq_stepL hash m op

end Flatcc.Refmap
