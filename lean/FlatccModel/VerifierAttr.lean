import Lean.Meta.Tactic.Simp.RegisterCommand
/-- `simp only [f, accepts] at h` turns `h : f … = .ok r`, for `f` a sequence of guards and guarded reads, into the conjunction of
the tests passed, with every value read replaced by the unguarded read of the same bytes: the mechanical inversion of binds, reads
and guards, one `iff` per kind of step (VerifierBasics). -/
register_simp_attr accepts
