import FlatccModel.RefmapCore
/-!
# Reference map (`src/runtime/refmap.c`): full executable model on top of the probe core.

`RM` (from `RefmapCore`) holds `buckets` and the slot table (`src = 0` ⇒ empty); here the element
count, the load-factor test, `resize` with rehash, `reset`, `clear` and the public `insert`/`find`.
The hash function is a parameter of every definition; `murmur` is the one the C code uses.
-/
namespace Flatcc.Refmap

/-- MurmurHash3 64-bit finalizer of `_flatcc_refmap_hash` with the default seed -/
def murmur (src : Nat) : Nat :=
  let x := (src % 18446744073709551616) ^^^ 0x2f693b52
  let x := x ^^^ (x >>> 33)
  let x := (x * 0xff51afd7ed558ccd) % 18446744073709551616
  let x := x ^^^ (x >>> 33)
  let x := (x * 0xc4ceb9fe1a85ec53) % 18446744073709551616
  x ^^^ (x >>> 33)

/-- `(size_t)(FLATCC_REFMAP_LOAD_FACTOR * 256.0f)` = 179 for 0.7f; regenerated constant is per mille -/
def loadN : Nat := 179
def minBuckets : Nat := 8

/-- `_flatcc_refmap_above_load_factor` -/
def aboveLoad (count buckets : Nat) : Bool := decide (count ≥ buckets * loadN / 256)

structure Map where
  count : Nat
  rm : RM
  /-- set if the rehash loop of `resize` would itself have triggered a resize (never, see theorems) -/
  nested : Bool := false
  deriving Repr

def Map.init : Map := { count := 0, rm := { buckets := 0, table := #[] } }

/-- the probe-and-store part of `flatcc_refmap_insert` (after the load test) -/
def insertSlot (hash : Nat → Nat) (m : Map) (src : Nat) (ref : Int) : Map :=
  let j := walk m.rm (hash src) src 0 m.rm.buckets
  if srcAt m.rm j = 0 then
    { m with count := m.count + 1, rm := { m.rm with table := m.rm.table.setIfInBounds j (src, ref) } }
  else
    { m with rm := { m.rm with table := m.rm.table.setIfInBounds j (src, ref) } }

/-- `while (above_load_factor(count, buckets)) buckets *= 2;` -/
def growLoop (count : Nat) : Nat → Nat → Nat
  | 0, b => b
  | fuel+1, b => if aboveLoad count b then growLoop count fuel (b * 2) else b

/-- `flatcc_refmap_resize` (allocation failure is modelled in the C13 machinery, not here) -/
def resize (hash : Nat → Nat) (m : Map) (count : Nat) : Map :=
  let count := if count < m.count then m.count else count
  let buckets := growLoop count (count + 64) minBuckets
  if m.rm.buckets = buckets then m else
  let fresh : Map := { count := 0, rm := { buckets := buckets, table := Array.replicate buckets (0, 0) }, nested := m.nested }
  m.rm.table.foldl (fun acc slot =>
    if slot.1 = 0 then acc
    else
      let acc := if aboveLoad acc.count acc.rm.buckets then { acc with nested := true } else acc
      insertSlot hash acc slot.1 slot.2) fresh

/-- `flatcc_refmap_insert`; returns the new map and the returned reference -/
def insert (hash : Nat → Nat) (m : Map) (src : Nat) (ref : Int) : Map × Int :=
  if src = 0 then (m, ref) else
  let m := if aboveLoad m.count m.rm.buckets then resize hash m (m.count * 2) else m
  (insertSlot hash m src ref, ref)

/-- `flatcc_refmap_find` -/
def find' (hash : Nat → Nat) (m : Map) (src : Nat) : Int :=
  if m.count = 0 then 0 else find hash m.rm src

/-- `flatcc_refmap_reset`: keeps the table size, removes all items -/
def reset (m : Map) : Map :=
  { m with count := 0, rm := { m.rm with table := if m.count = 0 then m.rm.table else Array.replicate m.rm.buckets (0, 0) } }

/-- `flatcc_refmap_clear` -/
def clear (_ : Map) : Map := Map.init

inductive Op
  | ins (src : Nat) (ref : Int)
  | fnd (src : Nat)
  | rsz (n : Nat)
  | rst
  | clr
  deriving Repr

/-- one public call; the `Int` is what the C function returns (0 for void / resize success) -/
def step (hash : Nat → Nat) (m : Map) : Op → Map × Int
  | .ins s r => insert hash m s r
  | .fnd s => (m, find' hash m s)
  | .rsz n => (resize hash m n, 0)
  | .rst => (reset m, 0)
  | .clr => (clear m, 0)

/-- the abstract map the property speaks of: last reference stored under each address since the last reset/clear -/
def spec : List Op → Nat → Int
  | [], _ => 0
  | op :: rest, k =>
    match op with
    | .ins s r => if s = k ∧ s ≠ 0 then r else spec rest k
    | .fnd _ => spec rest k
    | .rsz _ => spec rest k
    | .rst => 0
    | .clr => 0

/-- adjacent entries differ (of a sorted list: no duplicates) -/
def adjDistinct : List Nat → Bool
  | a :: b :: r => a != b && adjDistinct (b :: r)
  | _ => true

/-- executable form of the invariant (checked on the states of the correspondence run with at most 64 buckets; the proofs
use `Inv`) -/
def invOk (hash : Nat → Nat) (m : Map) : Bool :=
  let N := m.rm.buckets
  let occ := (m.rm.table.toList.filter (fun s => s.1 != 0)).map (·.1)
  m.rm.table.size == N &&
  (N == 0 || (decide (m.count < N) && occ.length == m.count &&
    adjDistinct (occ.toArray.qsort (· < ·)).toList &&
    (List.range N).all (fun t =>
      let src := srcAt m.rm t
      src == 0 || (
        -- the probe path from the home slot to t is hole-free
        (let home := hash src % N
         let dist := (t + N - home) % N
         (List.range dist).all (fun i => srcAt m.rm ((home + i) % N) != 0))))))

end Flatcc.Refmap
