import FlatccModel.ScanSwap
import FlatccModel.ArrayLemmas
/-! What the two scans return, the key orders the comparators induce, and that the offset-relative swap exchanges two targets. -/
namespace Flatcc.Sort

/-- what a scan over `[b, e)` may return; `before j r`: it visits `j` before `r` -/
def ScanResult (cmp : Nat → Int) (b e : Nat) (before : Nat → Nat → Prop) : Option Nat → Prop
  | some r => b ≤ r ∧ r < e ∧ cmp r = 0 ∧ ∀ j, b ≤ j → j < e → before j r → cmp j ≠ 0
  | none => ∀ j, b ≤ j → j < e → cmp j ≠ 0

theorem scanLoop_spec (cmp : Nat → Int) : ∀ f i e, e - i ≤ f → ScanResult cmp i e (· < ·) (scanLoop cmp f i e) := by
  intro f
  induction f with
  | zero => exact fun i e hf j h1 h2 => absurd (Nat.sub_pos_of_lt (Nat.lt_of_le_of_lt h1 h2)) (Nat.not_lt.2 hf)
  | succ f ih =>
    intro i e hf
    unfold scanLoop
    split
    · rename_i hie
      split
      · rename_i hz
        exact ⟨Nat.le_refl _, hie, hz, fun j h1 _ h2 => absurd h2 (Nat.not_lt.2 h1)⟩
      · rename_i hnz
        have := ih (i + 1) e (Nat.pred_le_pred hf)
        cases h : scanLoop cmp f (i + 1) e <;> rw [h] at this
        · intro j h1 h2
          rcases Nat.eq_or_lt_of_le h1 with rfl | h1
          · exact hnz
          · exact this j h1 h2
        · obtain ⟨h1, h2, h3, h4⟩ := this
          refine ⟨Nat.le_of_succ_le h1, h2, h3, fun j hj1 hj2 hj3 => ?_⟩
          rcases Nat.eq_or_lt_of_le hj1 with rfl | hj1
          · exact hnz
          · exact h4 j hj1 hj2 hj3
    · rename_i hie
      exact fun j h1 h2 => absurd (Nat.lt_of_le_of_lt h1 h2) hie

theorem rscanLoop_spec (cmp : Nat → Int) (b : Nat) : ∀ e, ScanResult cmp b e (· > ·) (rscanLoop cmp b e) := by
  intro e
  induction e with
  | zero => intro j _ h; cases h
  | succ e ih =>
    unfold rscanLoop
    split
    · rename_i hbe
      split
      · rename_i hz
        exact ⟨Nat.le_of_lt_succ hbe, Nat.lt_succ_self e, hz,
          fun j _ h1 h2 => absurd h2 (Nat.not_lt.2 (Nat.le_of_lt_succ h1))⟩
      · rename_i hnz
        cases h : rscanLoop cmp b e <;> rw [h] at ih
        · intro j h1 h2
          rcases Nat.eq_or_lt_of_le (Nat.le_of_lt_succ h2) with rfl | h2
          · exact hnz
          · exact ih j h1 h2
        · obtain ⟨h1, h2, h3, h4⟩ := ih
          refine ⟨h1, Nat.lt_succ_of_lt h2, h3, fun j hj1 hj2 hj3 => ?_⟩
          rcases Nat.eq_or_lt_of_le (Nat.le_of_lt_succ hj2) with rfl | hj2
          · exact hnz
          · exact h4 j hj1 hj2 hj3
    · rename_i hbe
      exact fun j h1 h2 => absurd (Nat.lt_of_le_of_lt h1 h2) hbe

theorem scan_spec (cmp : Nat → Int) (len b e : Nat) : ScanResult cmp b (min e len) (· < ·) (scan cmp len b e) :=
  scanLoop_spec cmp _ b _ (Nat.le_refl _)

theorem rscan_spec (cmp : Nat → Int) (len b e : Nat) : ScanResult cmp b (min e len) (· > ·) (rscan cmp len b e) :=
  rscanLoop_spec cmp b _

theorem lexCmp_refl (x : List Nat) : lexCmp x x = 0 := by
  induction x with
  | nil => rfl
  | cons a x ih => simp [lexCmp, ih]

theorem lexCmp_range (x y : List Nat) : lexCmp x y = -1 ∨ lexCmp x y = 0 ∨ lexCmp x y = 1 := by
  induction x generalizing y with
  | nil => cases y <;> simp [lexCmp]
  | cons a x ih =>
    cases y with
    | nil => simp [lexCmp]
    | cons b y =>
      simp only [lexCmp]
      split
      · simp
      · split
        · simp
        · exact ih y

theorem lexCmp_antisymm (x y : List Nat) : lexCmp y x = -(lexCmp x y) := by
  induction x generalizing y with
  | nil => cases y <;> simp [lexCmp]
  | cons a x ih =>
    cases y with
    | nil => simp [lexCmp]
    | cons b y =>
      simp only [lexCmp]
      by_cases h1 : a < b
      · simp [h1, Nat.lt_asymm h1]
      · by_cases h2 : a > b
        · simp [h1, h2]
        · obtain rfl : a = b := Nat.le_antisymm (Nat.not_lt.1 h2) (Nat.not_lt.1 h1)
          simp only [Nat.lt_irrefl, gt_iff_lt, if_false]
          exact ih y

/-- (`<` on lists is the lexicographic order) -/
theorem lexCmp_neg_iff (x y : List Nat) : lexCmp x y < 0 ↔ x < y := by
  induction x generalizing y with
  | nil => cases y <;> simp [lexCmp]
  | cons a x ih =>
    cases y with
    | nil => simp [lexCmp]
    | cons b y =>
      rw [lexCmp, List.cons_lt_cons_iff]
      by_cases hab : a < b
      · simp [*]
      · by_cases hba : a > b
        · have : a ≠ b := Nat.ne_of_gt hba
          simp [*]
        · have : a = b := Nat.le_antisymm (Nat.not_lt.1 hba) (Nat.not_lt.1 hab)
          simp [*]

theorem stringNCmp_eq_lex (v s : List Nat) (hv : NulFree v) (hs : NulFree s) : stringNCmp v s = lexCmp v s := by
  induction v generalizing s with
  | nil => cases s <;> rfl
  | cons a v ih =>
    cases s with
    | nil => rfl
    | cons b s =>
      have ha : a ≠ 0 := hv a List.mem_cons_self
      have ih := ih s (fun c hc => hv c (List.mem_cons_of_mem _ hc)) (fun c hc => hs c (List.mem_cons_of_mem _ hc))
      -- one more byte for `strncmp`, the same comparison of the lengths
      unfold stringNCmp at ih ⊢
      simp only [List.length_cons, Nat.add_min_add_right, strncmp, lexCmp]
      by_cases h1 : a < b
      · simp [h1]
      · by_cases h2 : a > b
        · simp [h1, h2]
        · simp only [h1, h2, ha, if_false, Nat.add_lt_add_iff_right, gt_iff_lt]
          exact ih

theorem scalarCmp_neg_iff (x y : Int) : scalarCmp x y < 0 ↔ x < y := by
  unfold scalarCmp
  split
  · simp [*]
  · split <;> simp [*]

theorem scalarLt_iff (x y : Int) : scalarLt x y = true ↔ x < y := by
  rw [scalarLt, decide_eq_true_iff, scalarCmp_neg_iff]

theorem scalarLt_eq_false_iff (x y : Int) : scalarLt x y = false ↔ y ≤ x := by
  rw [← Bool.not_eq_true, scalarLt_iff, Int.not_lt]

theorem scalarCmp_mono {x y : Int} (k : Int) (h : x ≤ y) : scalarCmp x k ≤ scalarCmp y k := by
  unfold scalarCmp
  by_cases hy : y < k
  · rw [if_pos hy, if_pos (Int.lt_of_le_of_lt h hy)]; exact Int.le_refl _
  · rw [if_neg hy]
    by_cases hx : x > k
    · rw [if_pos (Int.lt_of_lt_of_le hx h), if_neg (Int.lt_asymm hx), if_pos hx]; exact Int.le_refl _
    · rw [if_neg hx]; repeat' split
      all_goals decide

theorem stringLt_iff (x y : NFString) : stringLt x y = true ↔ x.1 < y.1 := by
  rw [stringLt, decide_eq_true_iff, stringNCmp_eq_lex _ _ x.2 y.2, lexCmp_neg_iff]

theorem emod_toNat_of_fits {x m : Int} {n : Nat} (hx : x = n) (hn : (n : Int) < m) : (x % m).toNat = n := by
  rw [hx, Int.emod_eq_of_lt (Int.natCast_nonneg n) hn, Int.toNat_natCast]

/-- offset `t` of slot `q` re-expressed relative to slot `p` (4-byte slots), in the two forms the swap computes -/
theorem offset_moved (t p q : Nat) (h : 4 * p ≤ 4 * q + t) :
    (t : Int) - ((p : Int) - q) * 4 = ((4 * q + t - 4 * p : Nat) : Int) ∧
    (t : Int) + ((q : Int) - p) * 4 = ((4 * q + t - 4 * p : Nat) : Int) := by
  rw [Int.ofNat_sub h]
  omega

/-- nothing wraps when each target lies at or behind the other element's slot and below 2^32 -/
theorem uoffsetSwap_targets (v : Array Nat) (a b : Nat) (ha : a < v.size) (hb : b < v.size)
    (h4a : 4 * a ≤ target v b) (h4b : 4 * b ≤ target v a)
    (hta : target v a < 4294967296) (htb : target v b < 4294967296) :
    target (uoffsetSwap v a b) a = target v b ∧ target (uoffsetSwap v a b) b = target v a ∧
    (∀ k, k ≠ a → k ≠ b → (uoffsetSwap v a b)[k]! = v[k]!) ∧ (uoffsetSwap v a b).size = v.size := by
  have fits : ∀ {t n : Nat}, t < 4294967296 → ((t - n : Nat) : Int) < 4294967296 :=
    fun h => Int.ofNat_lt.2 (Nat.lt_of_le_of_lt (Nat.sub_le _ _) h)
  have ea : (((v[b]! : Int) - ((a : Int) - b) * 4 % 4294967296) % 4294967296).toNat = target v b - 4 * a := by
    rw [Int.sub_emod_emod]
    exact emod_toNat_of_fits (offset_moved v[b]! a b h4a).1 (fits htb)
  have eb : (((v[a]! : Int) + ((a : Int) - b) * 4 % 4294967296) % 4294967296).toNat = target v a - 4 * b := by
    rw [Int.add_emod_emod]
    exact emod_toNat_of_fits (offset_moved v[a]! b a h4b).2 (fits hta)
  have hb' : ∀ x, b < (v.setIfInBounds a x).size := fun x => by simpa using hb
  simp only [uoffsetSwap, ea, eb]
  refine ⟨?_, ?_, ?_, by simp⟩
  · unfold target
    rw [getElem!_setIfInBounds _ b a _ (hb' _), getElem!_setIfInBounds _ a a _ ha, if_pos rfl]
    split
    · rename_i hab; subst hab; exact Nat.add_sub_cancel' h4b
    · exact Nat.add_sub_cancel' h4a
  · unfold target
    rw [getElem!_setIfInBounds _ b b _ (hb' _), if_pos rfl]
    exact Nat.add_sub_cancel' h4b
  · intro k hka hkb
    rw [getElem!_setIfInBounds _ b k _ (hb' _), getElem!_setIfInBounds _ a k _ ha, if_neg hkb, if_neg hka]

end Flatcc.Sort
