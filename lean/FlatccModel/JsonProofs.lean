import FlatccModel.Json
/-!
The string scanner (`parseBody`: `string_part` + `string_escape` in the loop of `build_string`) against the printer's
escaping, for every byte list: an accepted escape is a non-empty prefix of its input, so the fuel `length + 1` is never what
ends the loop; `string_escape` undoes `print_escape` byte by byte, so the scanner reads back what the printer wrote.
-/
namespace Flatcc.Json

theorem decodeEscape_suffix (r : List Nat) (bytes r' : List Nat) (h : decodeEscape r = some (bytes, r')) :
    ∃ pre, pre ≠ [] ∧ r = pre ++ r' := by
  revert h
  fun_cases decodeEscape r <;> intro h
  case case4 =>                                       -- a surrogate pair: both escapes are consumed
    obtain ⟨_, rfl⟩ := Prod.mk.inj (Option.some.inj h)
    exact ⟨[117, _, _, _, _, 92, 117, _, _, _, _], List.cons_ne_nil _ _, rfl⟩
  -- every accepting arm returns a tail of its own pattern, which `cases h` identifies with `r'`; a rejecting arm goes
  all_goals cases h
  case case1 => exact ⟨[_, _, _], List.cons_ne_nil _ _, rfl⟩                           -- `\xHH`
  case case5 | case6 | case7 | case8 =>                                               -- `\uXXXX`: the tail behind it
    exact ⟨[_, _, _, _, _], List.cons_ne_nil _ _, rfl⟩
  all_goals exact ⟨[_], List.cons_ne_nil _ _, rfl⟩                 -- `\t \n \r \b \f \" \\ \/`: one letter

theorem decodeEscape_shorter (r bytes r' : List Nat) (h : decodeEscape r = some (bytes, r')) : r'.length < r.length := by
  obtain ⟨pre, hne, rfl⟩ := decodeEscape_suffix r bytes r' h
  rw [List.length_append]
  exact Nat.lt_add_of_pos_left (List.length_pos_iff.mpr hne)

theorem parseBody_fuel_irrelevant (f g : Nat) (input acc : List Nat) (hf : input.length < f) (hg : input.length < g) :
    parseBody f input acc = parseBody g input acc := by
  induction f generalizing g input acc with
  | zero => cases hf
  | succ f ih =>
    obtain _ | g := g
    · cases hg
    cases input with
    | nil => rfl
    | cons c r =>
      replace hf : r.length < f := Nat.lt_of_succ_lt_succ hf
      replace hg : r.length < g := Nat.lt_of_succ_lt_succ hg
      simp only [parseBody]
      rw [ih g r (acc ++ [c]) hf hg]
      cases hd : decodeEscape r with
      | none => rfl
      | some p =>
        obtain ⟨bytes, r'⟩ := p
        have hr := decodeEscape_shorter r bytes r' hd
        dsimp only
        rw [ih g r' (acc ++ bytes) (Nat.lt_trans hr hf) (Nat.lt_trans hr hg)]

theorem parseBody_fuel (fuel : Nat) (input acc : List Nat) (h : input.length < fuel) :
    parseBody fuel input acc = parseBody (input.length + 1) input acc :=
  parseBody_fuel_irrelevant _ _ input acc h (Nat.lt_succ_self _)

/-- `parseBody` with the fuel `parseString` gives it: the fuel never ends the loop, so this is the scanner -/
def pb (buf acc : List Nat) : Option (List Nat × List Nat) := parseBody (buf.length + 1) buf acc

theorem pb_cons (c : Nat) (r acc : List Nat) :
    pb (c :: r) acc =
      if c = 34 then some (acc, r)
      else if c < 32 then none
      else if c = 92 then
        match decodeEscape r with
        | some (code, r') => pb r' (acc ++ code)
        | none => none
      else pb r (acc ++ [c]) := by
  unfold pb
  simp only [List.length_cons, parseBody]
  cases hd : decodeEscape r with
  | none => rfl
  | some p =>
    have hr := decodeEscape_shorter r p.1 p.2 hd
    simp only [parseBody_fuel (r.length + 1) p.2 (acc ++ p.1) (Nat.lt_succ_of_lt hr)]

theorem parseBody_length {fuel : Nat} {buf acc s rest : List Nat} (h : parseBody fuel buf acc = some (s, rest)) :
    acc.length ≤ s.length := by
  have grow : ∀ a b : List Nat, a.length ≤ (a ++ b).length := fun a b => by
    rw [List.length_append]; exact Nat.le_add_right ..
  fun_induction parseBody fuel buf acc
  · cases h                                                  -- no fuel
  · cases h                                                  -- end of input
  · cases h; exact Nat.le_refl _                             -- closing quote
  · cases h                                                  -- control character
  · rename_i ih; exact Nat.le_trans (grow _ _) (ih h)        -- escape
  · cases h                                                  -- invalid escape
  · rename_i ih; exact Nat.le_trans (grow _ _) (ih h)        -- plain byte

theorem parseString_no_quote (c : Nat) (r : List Nat) (h : c ≠ 34) : parseString (c :: r) = none := by
  unfold parseString
  split
  · rename_i heq; simp only [List.cons.injEq] at heq; exact absurd heq.1 h
  · rfl

theorem parseBody_suffix (fuel : Nat) (input acc out rest : List Nat) (h : parseBody fuel input acc = some (out, rest)) :
    ∃ pre, pre ≠ [] ∧ input = pre ++ rest := by
  fun_induction parseBody fuel input acc
  · cases h                                                  -- no fuel
  · cases h                                                  -- end of input
  · cases h; exact ⟨[_], List.cons_ne_nil _ _, rfl⟩          -- closing quote
  · cases h                                                  -- control character
  · rename_i hd _ _ ih                                       -- the backslash, the escape, what the rest of the loop consumes
    obtain ⟨p, _, rfl⟩ := decodeEscape_suffix _ _ _ hd
    obtain ⟨q, _, rfl⟩ := ih h
    exact ⟨_ :: (p ++ q), List.cons_ne_nil _ _, by rw [List.cons_append, List.append_assoc]⟩
  · cases h                                                  -- invalid escape
  · rename_i ih                                              -- plain byte, then what the rest of the loop consumes
    obtain ⟨q, _, rfl⟩ := ih h
    exact ⟨_ :: q, List.cons_ne_nil _ _, rfl⟩

theorem hexVal_hexDigit {x : Nat} (h : x < 16) : hexVal (hexDigit x) = some x := by
  unfold hexDigit
  by_cases hx : x < 10
  · rw [if_pos hx, hexVal, if_pos (by omega), Nat.add_sub_cancel_left]
  · rw [if_neg hx, hexVal, if_neg (by omega), if_pos (by omega), Nat.add_sub_cancel_left]

theorem escapeByte_head (c : Nat) : ∃ tail, escapeByte c = 92 :: tail := by
  -- `head?` goes into every branch of `print_escape`'s `if` chain, and every branch starts with the backslash
  have h : (escapeByte c).head? = some 92 := by
    simp only [escapeByte, apply_ite List.head?, List.head?_cons, ite_self]
  exact List.head?_eq_some_iff.mp h

theorem printByte_length_pos (c : Nat) : 1 ≤ (printByte c).length := by
  unfold printByte
  split
  · exact Nat.le_refl 1
  · obtain ⟨tail, he⟩ := escapeByte_head c
    rw [he]; exact Nat.le_add_left 1 _

theorem escapeByte_u {c : Nat} (h : c ∉ [34, 92, 9, 12, 13, 10, 8]) :
    escapeByte c = [92, 117, 48, 48, hexDigit (c / 16), hexDigit (c % 16)] := by
  simp only [List.mem_cons, List.not_mem_nil, or_false, not_or] at h
  simp only [escapeByte, h, if_false]

/-- `\u00XY` read back: a code point below 0x80 is its own UTF-8 encoding -/
theorem decodeEscape_u00 {c : Nat} (h : c < 128) (rest : List Nat) :
    decodeEscape (117 :: 48 :: 48 :: hexDigit (c / 16) :: hexDigit (c % 16) :: rest) = some ([c], rest) := by
  have h4 : hex4 48 48 (hexDigit (c / 16)) (hexDigit (c % 16)) = some c := by
    have hc : c < 16 * 16 := Nat.lt_trans h (by decide)
    rw [hex4, show hexVal 48 = some 0 from rfl, hexVal_hexDigit (Nat.div_lt_of_lt_mul hc),
      hexVal_hexDigit (Nat.mod_lt _ (by decide))]
    simp only [Nat.zero_mul, Nat.zero_add, Nat.div_add_mod']
  unfold decodeEscape
  simp only [h4]
  rw [if_neg (by omega), utf8, if_pos (Nat.le_of_lt_succ h)]

/-- `string_escape` undoes `print_escape` on every ASCII byte: on the seven named escapes by evaluation, else on `\u00XY` -/
theorem decodeEscape_escapeByte {c : Nat} (h : c < 128) (rest : List Nat) :
    decodeEscape ((escapeByte c).tail ++ rest) = some ([c], rest) := by
  by_cases hs : c ∈ [34, 92, 9, 12, 13, 10, 8]
  · simp only [List.mem_cons, List.not_mem_nil, or_false] at hs
    rcases hs with rfl | rfl | rfl | rfl | rfl | rfl | rfl <;> rfl
  · rw [escapeByte_u hs]
    exact decodeEscape_u00 h rest

theorem pb_printByte (c : Nat) (r acc : List Nat) : pb (printByte c ++ r) acc = pb r (acc ++ [c]) := by
  unfold printByte
  split
  · next hc =>
    rw [List.cons_append, List.nil_append, pb_cons, if_neg hc.2.1, if_neg (Nat.not_lt.mpr hc.1), if_neg hc.2.2]
  · next hc =>
    obtain ⟨tail, he⟩ := escapeByte_head c
    have hd := decodeEscape_escapeByte (c := c) (by omega) r
    rw [he, List.tail_cons] at hd
    rw [he, List.cons_append, pb_cons, if_neg (by decide), if_neg (by decide), if_pos rfl, hd]

theorem pb_printed (s : List Nat) (rest acc : List Nat) :
    pb (s.flatMap printByte ++ 34 :: rest) acc = some (acc ++ s, rest) := by
  induction s generalizing acc with
  | nil => rw [List.flatMap_nil, List.nil_append, pb_cons, if_pos rfl, List.append_nil]
  | cons c cs ih => rw [List.flatMap_cons, List.append_assoc, pb_printByte, ih, List.append_assoc]; rfl

theorem parseString_printString (s rest : List Nat) : parseString (printString s ++ rest) = some (s, rest) := by
  rw [printString, List.cons_append, List.append_assoc]
  exact pb_printed s rest []

end Flatcc.Json
