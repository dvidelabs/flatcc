/-!
# The decision code of the generated JSON parsers, and two checks of it against its dictionary (C10)

`Tree` is the decision code the compiler emitted for one dictionary `d` (sorted names), read as
byte-list semantics: the parser's 8-byte big-endian word compares (`w < tag`, `(w & mask) == tag`)
are lexicographic compares on the 8-byte window, `matchAt idx n` is the terminator test
(`match_symbol` / `match_constant`) at window offset `n`, `descend` moves the window by 8.
`eval t s off` runs the code on input `s` with the window at `off` (zero padded past the end).
`snd` (sound) and `cmp` (complete) are the decidable checks.
-/
namespace Flatcc.Trie

abbrev Key := List Nat

inductive Tree
  | lt (tag : List Nat) (l r : Tree)          -- if window <lex tag (8 bytes) then l else r
  | eqm (n : Nat) (bs : List Nat) (t e : Tree) -- if first n bytes of window = bs (|bs| = n) then t else e
  | matchAt (idx n : Nat) (fail : Tree)        -- terminator test at window offset n
  | descend (t : Tree)
  | unmatched
  deriving Repr, Inhabited

/-- the terminator `"` -/
def term : Nat := 34

/-- padded byte of the input at absolute position p -/
def byteAt (s : List Nat) (p : Nat) : Nat := s.getD p 0

def window (s : List Nat) (off : Nat) : List Nat := (List.range 8).map (fun j => byteAt s (off + j))

def lexLt : List Nat → List Nat → Bool
  | [], [] => false
  | [], _ :: _ => true
  | _ :: _, [] => false
  | a :: as, b :: bs => if a < b then true else if a > b then false else lexLt as bs

def eval : Tree → List Nat → Nat → Option Nat
  | .lt tag l r, s, off => if lexLt (window s off) tag then eval l s off else eval r s off
  | .eqm n bs t e, s, off => if (window s off).take n = bs then eval t s off else eval e s off
  | .matchAt idx n fail, s, off =>
      if s.length - off ≤ n then eval fail s off
      else if byteAt s (off + n) = term then some idx else eval fail s off
  | .descend t, s, off => eval t s (off + 8)
  | .unmatched, _, _ => none

/-- the input starts with the name `k` followed by the terminator -/
def Matches (s : List Nat) (k : Key) : Prop :=
  k.length < s.length ∧ (∀ j, j < k.length → byteAt s j = k.getD j 0) ∧ byteAt s k.length = term

/-- soundness check (`snd_sound`): every `matchAt idx n` leaf is dominated by equality tests that pin the bytes of key idx.
`pre`: the bytes pinned before the current window (full windows left by `descend`); `win`: those pinned of the window. -/
def snd (d : List Key) : Tree → (pre win : List Nat) → Bool
  | .lt _ l r, pre, win => snd d l pre win && snd d r pre win
  | .eqm n bs t e, pre, win => (bs.length == n && decide (n ≤ 8)) && snd d t pre bs && snd d e pre win
  | .matchAt idx n fail, pre, win =>
      (decide (n ≤ win.length) && (d.getD idx [] == pre ++ win.take n) && decide (idx < d.length)) && snd d fail pre win
  | .descend t, pre, win => (win.length == 8) && snd d t (pre ++ win) []
  | .unmatched, _, _ => true

/-- what is known about the input on a path -/
def Know (s : List Nat) (off : Nat) (pre win : List Nat) : Prop :=
  pre.length = off ∧ (∀ j, j < pre.length → byteAt s j = pre.getD j 0) ∧
  (∀ j, j < win.length → byteAt s (off + j) = win.getD j 0)

/-! ### completeness: simulate the path of key `i` -/

/-- known window bytes of an input that starts with `key ++ [term]` -/
def kwin (key : Key) (off : Nat) : List Nat := ((key ++ [term]).drop off).take 8

/-- decide `lexLt (kb ++ rest) tag` from the known prefix alone, if possible -/
def decLt : List Nat → List Nat → Option Bool
  | [], [] => some false
  | [], _ :: _ => none
  | _ :: _, [] => some false
  | a :: as, b :: bs => if a < b then some true else if a > b then some false else decLt as bs

/-- completeness check (`cmp_complete`): `true` = every test on the path of an input that starts with `key ++ [term]` is
decided by those bytes alone, and the path ends in the terminator test of entry `i` -/
def cmp (key : Key) (i : Nat) : Tree → Nat → Bool
  | .lt tag l r, off =>
      if tag.length = 8 then
        match decLt (kwin key off) tag with
        | some true => cmp key i l off
        | some false => cmp key i r off
        | none => false
      else false
  | .eqm n bs t e, off =>
      if n ≤ (kwin key off).length then
        (if (kwin key off).take n = bs then cmp key i t off else cmp key i e off)
      else if (kwin key off) ≠ bs.take (kwin key off).length then cmp key i e off else false
  | .matchAt idx n fail, off =>
      if off + n < key.length then cmp key i fail off
      else if off + n = key.length then idx == i
      else false
  | .descend t, off => cmp key i t (off + 8)
  | .unmatched, _ => false

end Flatcc.Trie
