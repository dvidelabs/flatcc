import FlatccModel.Emitter
/-! Refinement lemmas: every emitter operation acts on the abstract stream as prepend / append. -/
namespace Flatcc.Emitter

/-- the invariant of the emitter states: the page size is at least 2 (each half of the start page has room for a byte), an
emitter that has no page holds nothing, and the stream is `l` -/
structure Holds (s : Em) (l : List Nat) : Prop where
  page2 : 2 ≤ s.page
  empty : s.started = false → s.fpages = [] ∧ s.mf = [] ∧ s.mb = [] ∧ s.bpages = []
  eq : s.content = l

theorem page_pushFront (s : Em) (d : List Nat) : (pushFront s d).page = s.page := by
  unfold pushFront; cases s.fpages <;> rfl

theorem started_pushFront (s : Em) (d : List Nat) : (pushFront s d).started = s.started := by
  unfold pushFront; cases s.fpages <;> rfl

theorem started_pushBack (s : Em) (d : List Nat) : (pushBack s d).started = s.started := by
  unfold pushBack; cases s.bpages.getLast? <;> rfl

theorem holds_init {page : Nat} (h : 2 ≤ page) : Holds (Em.init page) [] :=
  ⟨h, fun _ => ⟨rfl, rfl, rfl, rfl⟩, rfl⟩

theorem holds_used {s : Em} {l : List Nat} (h : Holds s l) (u : Nat) : Holds { s with used := u } l :=
  ⟨h.page2, h.empty, h.eq⟩

/-- `hd`: what the C callers guarantee; without a page nothing fits -/
theorem holds_pushFront {s : Em} {l d : List Nat} (h : Holds s l) (hd : d.length ≤ s.frontLeft) :
    Holds (pushFront s d) (d ++ l) := by
  obtain ⟨hp, he, rfl⟩ := h
  have hd0 : s.started = false → d = [] := fun hs => by simpa [Em.frontLeft, hs] using hd
  unfold Emitter.pushFront
  cases hf : s.fpages with
  | nil =>
    exact ⟨hp, fun hs => by simp only [hd0 hs, he hs, List.append_nil, and_self],
      by simp only [Em.content, hf, List.flatten_nil, List.nil_append, List.append_assoc]⟩
  | cons p r =>
    exact ⟨hp, fun hs => (nomatch hf.symm.trans (he hs).1),
      by simp only [Em.content, hf, List.flatten_cons, List.append_assoc]⟩

theorem holds_pushBack {s : Em} {l d : List Nat} (h : Holds s l) (hd : d.length ≤ s.backLeft) :
    Holds (pushBack s d) (l ++ d) := by
  obtain ⟨hp, he, rfl⟩ := h
  have hd0 : s.started = false → d = [] := fun hs => by simpa [Em.backLeft, hs] using hd
  unfold Emitter.pushBack
  cases hb : s.bpages.getLast? with
  | none =>
    have hb := List.getLast?_eq_none_iff.mp hb
    exact ⟨hp, fun hs => by simp only [hd0 hs, he hs, List.append_nil, and_self],
      by simp only [Em.content, hb, List.flatten_nil, List.append_nil, List.append_assoc]⟩
  | some p =>
    obtain ⟨ys, hb⟩ := List.getLast?_eq_some_iff.mp hb
    exact ⟨hp, fun hs => absurd (hb.symm.trans (he hs).2.2.2) (by simp),
      by simp only [Em.content, hb, List.dropLast_concat, List.flatten_concat, List.append_assoc]⟩

theorem holds_advanceFront {s : Em} {l : List Nat} (h : Holds s l) :
    Holds (advanceFront s) l ∧ (advanceFront s).frontLeft ≠ 0 := by
  obtain ⟨hp, he, rfl⟩ := h
  have hp0 : 0 < s.page := Nat.lt_of_lt_of_le Nat.zero_lt_two hp
  unfold advanceFront
  cases hs : s.started with
  | false =>
    obtain ⟨e1, e2, -, -⟩ := he hs
    refine ⟨⟨hp, Bool.noConfusion, rfl⟩, ?_⟩
    unfold Em.frontLeft
    rw [e1, e2]
    exact Nat.ne_of_gt (Nat.div_pos hp Nat.zero_lt_two)
  | true =>
    rw [if_neg (by decide : ¬(!true) = true)]
    split <;> exact ⟨⟨hp, Bool.noConfusion, rfl⟩, Nat.ne_of_gt hp0⟩

theorem holds_advanceBack {s : Em} {l : List Nat} (h : Holds s l) :
    Holds (advanceBack s) l ∧ (advanceBack s).backLeft ≠ 0 := by
  obtain ⟨hp, he, rfl⟩ := h
  have hp0 : 0 < s.page := Nat.lt_of_lt_of_le Nat.zero_lt_two hp
  unfold advanceBack
  cases hs : s.started with
  | false =>
    obtain ⟨-, -, e3, e4⟩ := he hs
    refine ⟨⟨hp, Bool.noConfusion, rfl⟩, ?_⟩
    unfold Em.backLeft
    rw [e3, e4]
    exact Nat.ne_of_gt (show 0 < s.page - s.page / 2 from Nat.sub_pos_of_lt (Nat.div_lt_self hp0 Nat.one_lt_two))
  | true =>
    rw [if_neg (by decide : ¬(!true) = true)]
    split <;> exact ⟨⟨hp, Bool.noConfusion, by simp only [Em.content, List.flatten_concat, List.append_nil]⟩,
      by simp only [Em.backLeft, List.getLast?_concat]; exact Nat.ne_of_gt hp0⟩

/-- The measure of the copy loops is `2 * (bytes left) + [no room left]`: a page step clears the second term, a chunk
of `k ≥ 1` bytes pays for at most setting it again. `fuelFor` gives `2 * n + 2`. -/
theorem fuel_step {n k fuel : Nat} (c : Prop) [Decidable c] (hk : 0 < k) (hkn : k ≤ n) (hf : 2 * n ≤ fuel + 1) :
    2 * (n - k) + (if c then 1 else 0) ≤ fuel := by
  have hc : (if c then 1 else 0) ≤ 1 := by split <;> decide
  -- 2 * (n - k) + [c] + 1 ≤ 2 * (n - k + 1) ≤ 2 * n ≤ fuel + 1
  have h2 : 2 * (n - k + 1) ≤ 2 * n := Nat.mul_le_mul_left 2 (Nat.sub_lt_of_pos_le hk hkn)
  exact Nat.le_of_succ_le_succ (Nat.le_trans (Nat.add_le_add_left (Nat.succ_le_succ hc) _) (Nat.le_trans h2 hf))

theorem nil_of_no_fuel {d : List Nat} {x : Nat} (hf : 2 * d.length + x ≤ 0) : d = [] :=
  have h : d.length ≤ 0 := Nat.le_trans (Nat.le_mul_of_pos_left _ Nat.zero_lt_two) (Nat.le_of_add_right_le hf)
  List.eq_nil_of_length_eq_zero (Nat.le_zero.mp h)

theorem fuelFor_ok (s : Em) (n : Nat) (c : Prop) [Decidable c] : 2 * n + (if c then 1 else 0) ≤ fuelFor s n :=
  Nat.add_le_add_left (by split <;> decide) _

theorem holds_copyFront (fuel : Nat) {s : Em} {l : List Nat} (d : List Nat) (h : Holds s l)
    (hf : 2 * d.length + (if s.frontLeft = 0 then 1 else 0) ≤ fuel) : Holds (copyFront fuel s d) (d ++ l) := by
  induction fuel generalizing s l d with
  | zero =>
    obtain rfl : d = [] := nil_of_no_fuel hf
    exact h
  | succ fuel ih =>
    unfold copyFront
    by_cases hd : d = []
    · subst hd; exact h
    · rw [if_neg (mt List.isEmpty_iff.mp hd)]
      by_cases h0 : s.frontLeft = 0
      · rw [if_pos h0] at hf ⊢
        have ⟨ha, hl⟩ := holds_advanceFront h
        exact ih d ha (by rw [if_neg hl]; exact Nat.le_of_succ_le_succ hf)
      · rw [if_neg h0] at hf ⊢
        have hk0 : 0 < min d.length s.frontLeft := Nat.lt_min.mpr ⟨List.length_pos_iff.mpr hd, Nat.pos_of_ne_zero h0⟩
        have hk1 : min d.length s.frontLeft ≤ d.length := Nat.min_le_left ..
        have hk2 : min d.length s.frontLeft ≤ s.frontLeft := Nat.min_le_right ..
        generalize min d.length s.frontLeft = k at hk0 hk1 hk2 ⊢
        have := ih (d.take (d.length - k))
          (holds_pushFront h (d := d.drop (d.length - k)) (by rw [List.length_drop, Nat.sub_sub_self hk1]; exact hk2))
          (by rw [List.length_take_of_le (Nat.sub_le _ _)]; exact fuel_step _ hk0 hk1 hf)
        rwa [← List.append_assoc, List.take_append_drop] at this

theorem holds_copyBack (fuel : Nat) {s : Em} {l : List Nat} (d : List Nat) (h : Holds s l)
    (hf : 2 * d.length + (if s.backLeft = 0 then 1 else 0) ≤ fuel) : Holds (copyBack fuel s d) (l ++ d) := by
  induction fuel generalizing s l d with
  | zero =>
    obtain rfl : d = [] := nil_of_no_fuel hf
    exact (List.append_nil l).symm ▸ h
  | succ fuel ih =>
    unfold copyBack
    by_cases hd : d = []
    · subst hd; exact (List.append_nil l).symm ▸ h
    · rw [if_neg (mt List.isEmpty_iff.mp hd)]
      by_cases h0 : s.backLeft = 0
      · rw [if_pos h0] at hf ⊢
        have ⟨ha, hl⟩ := holds_advanceBack h
        exact ih d ha (by rw [if_neg hl]; exact Nat.le_of_succ_le_succ hf)
      · rw [if_neg h0] at hf ⊢
        have hk0 : 0 < min d.length s.backLeft := Nat.lt_min.mpr ⟨List.length_pos_iff.mpr hd, Nat.pos_of_ne_zero h0⟩
        have hk1 : min d.length s.backLeft ≤ d.length := Nat.min_le_left ..
        have hk2 : min d.length s.backLeft ≤ s.backLeft := Nat.min_le_right ..
        generalize min d.length s.backLeft = k at hk0 hk1 hk2 ⊢
        have := ih (d.drop k)
          (holds_pushBack h (d := d.take k) (Nat.le_trans (List.length_take_le k d) hk2))
          (by rw [List.length_drop]; exact fuel_step _ hk0 hk1 hf)
        rwa [List.append_assoc, List.take_append_drop] at this

theorem holds_foldl {α : Type} {f : Em → α → Em} {g : List Nat → α → List Nat}
    (hfg : ∀ {s l} a, Holds s l → Holds (f s a) (g l a)) :
    ∀ (as : List α) {s l}, Holds s l → Holds (as.foldl f s) (as.foldl g l)
  | [], _, _, h => h
  | a :: as, _, _, h => holds_foldl hfg as (hfg a h)

end Flatcc.Emitter
