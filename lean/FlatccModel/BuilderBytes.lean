import FlatccModel.Builder
/-! # Byte images: slices of a concatenation and little-endian reads -/
namespace Flatcc.Builder

theorem le32_length (x : Nat) : (le32 x).length = 4 := rfl
theorem le16_length (x : Nat) : (le16 x).length = 2 := rfl
theorem zeros_length (n : Nat) : (zeros n).length = n := by simp [zeros]

theorem le32_append_ne (x : Nat) (a b : List Nat) : le32 x ++ a ++ b ≠ [] := by unfold le32; simp

/-- the `n` bytes of `l` from position `i` -/
def slice (l : List Nat) (i n : Nat) : List Nat := (l.drop i).take n

theorem slice_append_left (a b : List Nat) (i n : Nat) (h : i + n ≤ a.length) : slice (a ++ b) i n = slice a i n := by
  have hn : n ≤ (a.drop i).length := by
    rw [List.length_drop]
    exact Nat.le_sub_of_add_le' h
  unfold slice
  rw [List.drop_append_of_le_length (Nat.le_of_add_right_le h), List.take_append_of_le_length hn]

theorem slice_skip (a b : List Nat) (i n : Nat) : slice (a ++ b) (a.length + i) n = slice b i n := by
  unfold slice
  rw [List.drop_length_add_append]

/-- position and length as equations, so that literals can stand for them; `a := []` gives the head of a list -/
theorem slice_mid (a b c : List Nat) (i n : Nat) (hi : a.length = i) (hn : b.length = n) : slice (a ++ (b ++ c)) i n = b := by
  subst hi hn
  unfold slice
  simp

theorem flatten_length (L : List (List Nat)) (k : Nat) (h : ∀ x ∈ L, x.length = k) : L.flatten.length = k * L.length := by
  induction L with
  | nil => rfl
  | cons x xs ih =>
    rw [List.flatten_cons, List.length_append, List.length_cons, h x List.mem_cons_self,
      ih (fun y hy => h y (List.mem_cons_of_mem _ hy)),
      Nat.mul_succ, Nat.add_comm]

theorem slice_chunk (L : List (List Nat)) (c : List Nat) (k : Nat) (h : ∀ x ∈ L, x.length = k) (i : Nat) (hi : i < L.length) :
    slice (L.flatten ++ c) (k * i) k = L[i] := by
  induction L generalizing i with
  | nil => simp at hi
  | cons x xs ih =>
    have hx : x.length = k := h x List.mem_cons_self
    rw [List.flatten_cons, List.append_assoc]
    cases i with
    | zero => exact slice_mid [] x _ 0 k rfl hx
    | succ j =>
      have e : k * (j + 1) = x.length + k * j := by rw [hx, Nat.mul_succ, Nat.add_comm]
      rw [e, slice_skip, List.getElem_cons_succ]
      exact ih (fun y hy => h y (List.mem_cons_of_mem _ hy)) j (Nat.lt_of_succ_lt_succ hi)

/-- little-endian 16-bit read at byte position `i` (`__flatbuffers_voffset_read_from_pe`) -/
def rd16 (l : List Nat) (i : Nat) : Nat := match slice l i 2 with | [a, b] => a + 256 * b | _ => 0
/-- little-endian 32-bit read at byte position `i` (`__flatbuffers_uoffset_read_from_pe`) -/
def rd32 (l : List Nat) (i : Nat) : Nat :=
  match slice l i 4 with | [a, b, c, d] => a + 256 * b + 65536 * c + 16777216 * d | _ => 0

theorem rd16_of_slice (l : List Nat) (i x : Nat) (h : slice l i 2 = le16 x) (hx : x < 65536) : rd16 l i = x := by
  unfold rd16; rw [h]; simp only [le16]
  rw [← @Nat.mod_mul 256 256 x]
  exact Nat.mod_eq_of_lt hx

/-- four bytes give back the word modulo 2^32, one `Nat.mod_mul` per byte (omega on these literals is dear) -/
theorem bytes_mod (x : Nat) :
    x % 256 + 256 * (x / 256 % 256) + 65536 * (x / 65536 % 256) + 16777216 * (x / 16777216 % 256) = x % 4294967296 := by
  have a : x % 65536 = x % 256 + 256 * (x / 256 % 256) := @Nat.mod_mul 256 256 x
  have b : x % 16777216 = x % 65536 + 65536 * (x / 65536 % 256) := @Nat.mod_mul 65536 256 x
  have c : x % 4294967296 = x % 16777216 + 16777216 * (x / 16777216 % 256) := @Nat.mod_mul 16777216 256 x
  rw [c, b, a]

theorem rd32_of_slice (l : List Nat) (i x : Nat) (h : slice l i 4 = le32 x) (hx : x < 4294967296) : rd32 l i = x := by
  unfold rd32; rw [h]; simp only [le32]
  rw [bytes_mod, Nat.mod_eq_of_lt hx]

theorem rd32_head (x : Nat) (rest : List Nat) (hx : x < 4294967296) : rd32 (le32 x ++ rest) 0 = x :=
  rd32_of_slice _ 0 x (slice_mid [] (le32 x) rest 0 4 rfl rfl) hx

theorem rd32_head_body (x : Nat) (d rest : List Nat) (hx : x < 4294967296) :
    rd32 (le32 x ++ d ++ rest) 0 = x ∧ slice (le32 x ++ d ++ rest) 4 d.length = d := by
  rw [List.append_assoc]
  exact ⟨rd32_head x _ hx, slice_mid (le32 x) d rest 4 d.length rfl rfl⟩

theorem emod_of_add_self {x a : Int} (h : (x + a) % a = 0) : x % a = 0 :=
  (Int.add_emod_right ..).symm.trans h

theorem sub_natAdd_lt {r a b : Int} {n : Nat} (h : r - a < b) : r - (a + n) < b :=
  Int.lt_of_le_of_lt (Int.sub_le_sub_left (Int.le.intro n rfl) r) h

theorem u32_lt (x : Int) : u32 x < 4294967296 :=
  (Int.toNat_lt' (by decide)).2 (Int.emod_lt_of_pos x (by decide))

theorem u32_of_range (x : Int) (h0 : 0 ≤ x) (h1 : x < 4294967296) : (u32 x : Int) = x := by
  unfold u32
  rw [Int.emod_eq_of_lt h0 h1]
  exact Int.toNat_of_nonneg h0

/-- how every `uoffset_t` field is read back: a field at `addr` storing the distance to a later address `r` -/
theorem rd32_offset (img : List Nat) (i : Nat) (addr r : Int) (h : slice img i 4 = le32 (u32 (r - addr)))
    (h0 : addr < r) (h1 : r - addr < 4294967296) : 0 < rd32 img i ∧ addr + rd32 img i = r := by
  have hpos : 0 < r - addr := Int.sub_pos_of_lt h0
  rw [rd32_of_slice img i _ h (u32_lt _), ← Int.natCast_pos, u32_of_range _ (Int.le_of_lt hpos) h1, Int.add_comm]
  exact ⟨hpos, Int.sub_add_cancel ..⟩

end Flatcc.Builder
