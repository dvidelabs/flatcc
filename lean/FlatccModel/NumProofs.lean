import FlatccModel.Num
/-! What the printers and the JSON integer scanner of `Num` compute: a digit plan prints the decimal digits (`runPlan_spec`),
each leaf of the length decision trees picks such a plan with enough digits (`Fits`), the scanner on sign, digits and a
non-digit is one equation (`jsonInteger_digits`). -/
namespace Flatcc.Num

/-- `s` is a decimal text of `n` in exactly `k` digits, leading zeros allowed -/
def Digits (s : List Nat) (n k : Nat) : Prop := decval s = n ∧ AllDigits s ∧ s.length = k

theorem Digits.snoc {s : List Nat} {n k : Nat} (h : Digits s (n / 10) k) : Digits (s ++ [48 + n % 10]) n (k + 1) := by
  obtain ⟨h1, h2, h3⟩ := h
  refine ⟨?_, ?_, ?_⟩
  · unfold decval at h1 ⊢
    rw [List.foldl_append, h1]
    simp only [List.foldl, Nat.add_sub_cancel_left]
    exact Nat.div_add_mod' n 10
  · intro c hc
    rcases List.mem_append.mp hc with hc | hc
    · exact h2 c hc
    · rw [List.mem_singleton.mp hc]
      have : n % 10 ≤ 9 := Nat.le_of_lt_succ (Nat.mod_lt n (by decide))
      exact ⟨Nat.le_add_right .., Nat.add_le_add_left this 48⟩
  · exact h3 ▸ List.length_append

theorem runPlan_pair (r : List St) (n : Nat) : runPlan (.pair :: r) n = runPlan (.short :: .short :: r) n := by
  simp only [runPlan, List.append_assoc, List.cons_append, List.nil_append]
  rw [Nat.div_div_eq_div_mul, Nat.mod_mul_right_div_self n 10 10, Nat.mod_mod_of_dvd n (by decide : 10 ∣ 100)]

theorem div_lt_pow {n k : Nat} (h : n < 10 ^ (k + 1)) : n / 10 < 10 ^ k :=
  Nat.div_lt_of_lt_mul (by rwa [Nat.pow_succ, Nat.mul_comm] at h)

theorem runPlan_spec (plan : List St) : ∀ {n k : Nat}, planDigits plan = k → n < 10 ^ k → Digits (runPlan plan n) n k := by
  induction plan with
  | nil =>
    rintro n _ rfl h
    obtain rfl := Nat.lt_one_iff.mp h
    exact ⟨rfl, nofun, rfl⟩
  | cons s r ih =>
    rintro n _ rfl h
    cases s with
    | pair =>
      rw [runPlan_pair]
      exact (ih rfl (div_lt_pow (div_lt_pow h))).snoc.snoc
    | short => exact (ih rfl (div_lt_pow h)).snoc
    | last =>
      -- the last stage does not reduce `n`: right only because a single digit is left. For `n < 10` its byte
      -- `(48 + n) % 256` is `48 + n % 10`, one digit appended to the empty text
      have h : n < 10 := h
      have hb : (48 + n) % 256 = 48 + n := Nat.mod_eq_of_lt (Nat.lt_of_lt_of_le (Nat.add_lt_add_left h 48) (by decide))
      have := Digits.snoc (s := []) ⟨(Nat.div_eq_of_lt h).symm, nofun, rfl⟩
      rwa [Nat.mod_eq_of_lt h, ← hb] at this

/-- `k` is a digit count in `[1, hi]` at which `plan k` prints `n` exactly. A `def`: at a leaf `apply Fits.ite` then fails at
once, without unfolding anything. -/
def Fits (plan : Nat → List St) (n hi k : Nat) : Prop := 1 ≤ k ∧ k ≤ hi ∧ Digits (runPlan (plan k) n) n k

theorem Fits.ite {plan : Nat → List St} {n hi : Nat} {c : Prop} [Decidable c] {a b : Nat}
    (ha : c → Fits plan n hi a) (hb : ¬ c → Fits plan n hi b) : Fits plan n hi (if c then a else b) := by
  split
  · exact ha ‹_›
  · exact hb ‹_›

-- In the four walks below `k` is a literal at each leaf: the plan for it is the switch case of the C code, and that its
-- stages make `k` digits (`planDigits`) is `rfl`. The leaf's bound `n < 10 ^ k` is the last failed test on the way to it, or `top` at the
-- largest `k`; `‹_›` finds it among the hypotheses by evaluating `10 ^ k` to the literal of the test. `with_reducible`: at a
-- leaf the `apply` is to fail at once and not look for an `if` by unfolding the literal.
theorem klen8_fits (n : Nat) (h : n < 256) : Fits planSmall n 3 (klen8 n) := by
  have top : ¬ n ≥ 1000 := by omega
  unfold klen8
  repeat' (with_reducible apply Fits.ite <;> intro _)
  all_goals exact ⟨by decide, by decide, runPlan_spec _ rfl (Nat.lt_of_not_le ‹_›)⟩

theorem klen16_fits (n : Nat) (h : n < 65536) : Fits planSmall n 5 (klen16 n) := by
  have top : ¬ n ≥ 100000 := by omega
  unfold klen16
  repeat' (with_reducible apply Fits.ite <;> intro _)
  all_goals exact ⟨by decide, by decide, runPlan_spec _ rfl (Nat.lt_of_not_le ‹_›)⟩

theorem klen32_fits (n : Nat) (h : n < 4294967296) : Fits planSmall n 10 (klen32 n) := by
  have top : ¬ n ≥ 10000000000 := by omega
  unfold klen32
  repeat' (with_reducible apply Fits.ite <;> intro _)
  all_goals exact ⟨by decide, by decide, runPlan_spec _ rfl (Nat.lt_of_not_le ‹_›)⟩

theorem klen64_fits (n : Nat) (h : n < 18446744073709551616) : Fits plan64 n 20 (klen64 n) := by
  have top : ¬ n ≥ 100000000000000000000 := by omega
  unfold klen64
  repeat' (with_reducible apply Fits.ite <;> intro _)
  all_goals exact ⟨by decide, by decide, runPlan_spec _ rfl (Nat.lt_of_not_le ‹_›)⟩

/-- the loop's accumulator after the digits `l`, started at `x` -/
def valFrom (l : List Nat) (x : Nat) : Nat := l.foldl (fun acc c => acc * 10 + (c - 48)) x

theorem le_valFrom (ds : List Nat) (x : Nat) : x ≤ valFrom ds x := by
  induction ds generalizing x with
  | nil => exact Nat.le_refl _
  | cons d ds ih =>
    calc x ≤ x * 10 := Nat.le_mul_of_pos_right x (by decide)
      _ ≤ x * 10 + (d - 48) := Nat.le_add_right ..
      _ ≤ valFrom (d :: ds) x := ih _

/-- the loop's test before multiplying: `x * 10 + e` would exceed `M` -/
theorem overflow_test {x e M : Nat} (he : e ≤ M) : x > (M - e) / 10 ↔ M < x * 10 + e :=
  (Nat.div_lt_iff_lt_mul (by decide)).trans (Nat.sub_lt_iff_lt_add he)

def NonDigitHead (rest : List Nat) : Prop := ∀ c cs, rest = c :: cs → isDigit c = false

/-- `c` is the count at the overflow point, left unspecified -/
theorem digitLoop_spec (ds : List Nat) (hd : AllDigits ds) (rest : List Nat) (hr : NonDigitHead rest) :
    ∀ (x cnt : Nat), x < 18446744073709551616 → ∃ c, digitLoop (ds ++ rest) x cnt =
      if valFrom ds x < 18446744073709551616 then (some (valFrom ds x), ds.length + cnt) else (none, c) := by
  induction ds with
  | nil =>
    intro x cnt hx
    refine ⟨0, ?_⟩
    rw [if_pos (show valFrom [] x < _ from hx), List.length_nil, Nat.zero_add]
    cases rest with
    | nil => rfl
    | cons c cs => simp only [List.nil_append, digitLoop, hr c cs rfl]; rfl
  | cons d ds ih =>
    intro x cnt hx
    -- write `valFrom (d :: ds) x` as `valFrom ds (x * 10 + (d - 48))` once: left to unification at each use it is slow
    rw [valFrom, List.foldl_cons, ← valFrom]
    have hdd := hd d List.mem_cons_self
    have hdig : isDigit d = true := by simp [isDigit, hdd]
    have he : d - 48 ≤ 18446744073709551615 := Nat.sub_le_of_le_add (Nat.le_trans hdd.2 (by decide))
    simp only [List.cons_append, digitLoop, hdig, if_true]
    by_cases hov : x > (18446744073709551615 - (d - 48)) / 10
    · rw [if_pos hov]
      have h1 := Nat.le_trans ((overflow_test he).mp hov) (le_valFrom ds _)
      exact ⟨cnt, (if_neg (Nat.not_lt.mpr h1)).symm⟩
    · rw [if_neg hov]
      have h1 := Nat.lt_succ_of_le (Nat.le_of_not_lt (mt (overflow_test he).mpr hov))
      obtain ⟨c, h⟩ := ih (fun e he => hd e (List.mem_cons_of_mem _ he)) _ (cnt + 1) h1
      exact ⟨c, by rw [h, List.length_cons, Nat.add_right_comm]; rfl⟩

theorem digitLoop_digits (ds : List Nat) (hd : AllDigits ds) (rest : List Nat) (hr : NonDigitHead rest) :
    ∃ c, digitLoop (ds ++ rest) 0 0 =
      if decval ds < 18446744073709551616 then (some (decval ds), ds.length) else (none, c) :=
  -- `decval ds` unfolds to `valFrom ds 0`
  digitLoop_spec ds hd rest hr 0 0 (by decide)

/-- `-` or nothing -/
def sign (neg : Bool) : List Nat := if neg then [45] else []

/-- the scanner's last step: `e`, `E` or `.` after the number is an error, anything else leaves the result `r` -/
def after (rest : List Nat) (r : IntRes) : IntRes :=
  match rest with
  | d :: _ => if d = 101 ∨ d = 69 ∨ d = 46 then .floatUnexpected else r
  | [] => r

theorem jsonInteger_sign (neg : Bool) (body : List Nat) (h : neg = false → ∃ c cs, body = c :: cs ∧ c ≠ 45) :
    jsonInteger (sign neg ++ body) =
      match digitLoop body 0 0 with
      | (none, _) => .range
      | (some x, cnt) =>
        if cnt + (sign neg).length = 0 then .nomatch
        else after (body.drop cnt) (.ok neg x (cnt + (sign neg).length)) := by
  cases neg with
  | true => rfl
  | false =>
    obtain ⟨c, cs, rfl, hc⟩ := h rfl
    show jsonIntegerWith digitLoop (c :: cs) = _
    dsimp only [jsonIntegerWith]
    rw [beq_false_of_ne hc]
    rfl

/-- a lone `-` counts: the C code only tests that something was consumed -/
theorem jsonInteger_digits (neg : Bool) (ds : List Nat) (hd : AllDigits ds) (hne : neg = true ∨ ds ≠ [])
    (rest : List Nat) (hr : NonDigitHead rest) :
    jsonInteger (sign neg ++ (ds ++ rest)) =
      if 18446744073709551616 ≤ decval ds then .range
      else after rest (.ok neg (decval ds) (ds.length + (sign neg).length)) := by
  obtain ⟨c, h⟩ := digitLoop_digits ds hd rest hr
  rw [jsonInteger_sign, h]
  · by_cases h1 : decval ds < 18446744073709551616
    · have hc : ¬ ds.length + (sign neg).length = 0 := by
        rcases hne with rfl | hne
        · simp [sign]
        · exact Nat.ne_of_gt (Nat.add_pos_left (List.length_pos_iff.mpr hne) _)
      simp only [if_pos h1, hc, if_false, List.drop_left, if_neg (Nat.not_le.mpr h1)]
    · rw [if_neg h1, if_pos (Nat.le_of_not_lt h1)]
  · intro hneg
    cases ds with
    | nil => simp [hneg] at hne
    | cons d ds' =>
      have := hd d List.mem_cons_self
      exact ⟨d, _, rfl, Nat.ne_of_gt (Nat.lt_of_lt_of_le (by decide) this.1)⟩

/-- what may follow a printed integer in JSON without changing how the scanner reads it:
end of input, or a byte that is neither a digit nor one of `e E .` -/
def Term (rest : List Nat) : Prop :=
  ∀ c cs, rest = c :: cs → isDigit c = false ∧ c ≠ 101 ∧ c ≠ 69 ∧ c ≠ 46

theorem Term.nonDigit {rest : List Nat} (h : Term rest) : NonDigitHead rest := fun c cs e => (h c cs e).1

theorem Term.after {rest : List Nat} (h : Term rest) (r : IntRes) : after rest r = r := by
  cases rest with
  | nil => rfl
  | cons c cs =>
    have := h c cs rfl
    simp only [Num.after, this.2.1, this.2.2.1, this.2.2.2, or_self, if_false]

/-- `s` is a non-empty decimal text of `n`: what the scanner needs of a printer -/
def Prints (s : List Nat) (n : Nat) : Prop := decval s = n ∧ AllDigits s ∧ 1 ≤ s.length

theorem Digits.prints {s : List Nat} {n k : Nat} (h : Digits s n k) (hk : 1 ≤ k) : Prints s n :=
  ⟨h.1, h.2.1, h.2.2 ▸ hk⟩

theorem Fits.prints {plan : Nat → List St} {n hi k : Nat} (h : Fits plan n hi k) : Prints (runPlan (plan k) n) n :=
  h.2.2.prints h.1

theorem printU64_digits {n : Nat} (h : n < 18446744073709551616) :
    ∃ k, 1 ≤ k ∧ k ≤ 20 ∧ Digits (printU64 n) n k := by
  unfold printU64
  split
  · have hk := klen32_fits n (Nat.lt_trans ‹_› (by decide))
    exact ⟨_, hk.1, Nat.le_trans hk.2.1 (by decide), hk.2.2⟩
  · exact ⟨_, klen64_fits n h⟩

theorem printU64_prints {n : Nat} (h : n < 18446744073709551616) : Prints (printU64 n) n :=
  have ⟨_, hk, _, hd⟩ := printU64_digits h
  hd.prints hk

theorem scan_prints {s : List Nat} {n : Nat} (hs : Prints s n) (hn : n < 18446744073709551616) (rest : List Nat)
    (ht : Term rest) : jsonInteger (s ++ rest) = .ok false n s.length := by
  obtain ⟨h1, h2, h3⟩ := hs
  have := jsonInteger_digits false s h2 (.inr (List.ne_nil_of_length_pos h3)) rest ht.nonDigit
  rwa [ht.after, h1, if_neg (Nat.not_le_of_lt hn)] at this

theorem scan_printI {m : Nat} (hm : m ≤ 9223372036854775808) (pu : Nat → List Nat) (hpu : ∀ n, n ≤ m → Prints (pu n) n)
    (i : Int) (hlo : -(m : Int) ≤ i) (hhi : i < (m : Int)) (rest : List Nat) (ht : Term rest) :
    ∃ k, jsonInteger (printI pu i ++ rest) = .ok (decide (i < 0)) i.natAbs k := by
  have hn : i.natAbs ≤ m := by omega
  have h64 : i.natAbs < 18446744073709551616 := Nat.lt_of_le_of_lt (Nat.le_trans hn hm) (by decide)
  obtain ⟨h1, h2, h3⟩ := hpu _ hn
  have hsign : printI pu i = sign (decide (i < 0)) ++ pu i.natAbs := by
    unfold printI sign; by_cases h : i < 0 <;> simp [h]
  rw [hsign, List.append_assoc, jsonInteger_digits _ _ h2 (.inr (List.ne_nil_of_length_pos h3)) rest ht.nonDigit,
    ht.after, h1, if_neg (Nat.not_le_of_lt h64)]
  exact ⟨_, rfl⟩

section
-- A signed type of `2 * m` values, a number that divides `2^64`; in flatcc `m` is `2^7`, `2^15`, `2^31` or `2^63`.
variable {m : Nat} (hm : 0 < m) (hd : 2 * m ∣ 18446744073709551616)
include hm hd

theorem coerceS_true {v : Nat} (hv : v ≤ m) : coerceS m true v = some (-(v : Int)) := by
  simp only [coerceS, if_true, if_neg (Nat.not_lt.mpr hv)]
  congr 1
  rcases Nat.eq_zero_or_pos v with rfl | h0
  · simp [hm]
  · have h3 : m + v ≤ 2 * m := Nat.two_mul m ▸ Nat.add_le_add_left hv m
    have h2 : v ≤ 2 * m := Nat.le_trans (Nat.le_add_left v m) h3
    -- `2^64 = 2m(q+1)`: the negation `2^64 - v`, truncated to `2m` values, is `2m - v`, read back as `-v`
    have : (18446744073709551616 - v) % 18446744073709551616 % (2 * m) = 2 * m - v := by
      rw [Nat.mod_mod_of_dvd _ hd]
      obtain ⟨_ | q, hq⟩ := hd
      · simp at hq
      · rw [hq, Nat.mul_succ, Nat.add_sub_assoc h2, Nat.mul_add_mod]
        exact Nat.mod_eq_of_lt (Nat.sub_lt (Nat.lt_of_lt_of_le h0 h2) h0)
    rw [this, if_neg (Nat.not_lt.mpr (Nat.le_sub_of_add_le h3))]
    -- `↑(2m - v) - ↑(2m) = -↑v`
    exact Int.sub_eq_iff_eq_add'.mpr (Int.ofNat_sub h2)

/-- `coerce_int8/16/32/64` accept exactly the values in range, as `±v` -/
theorem coerceS_eq_some_iff (neg : Bool) (v : Nat) (r : Int) :
    coerceS m neg v = some r ↔ r = (if neg then -(v : Int) else (v : Int)) ∧ -(m : Int) ≤ r ∧ r < (m : Int) := by
  -- omega is slow on `↔` and on `m - 1`: the equation is turned so that `iff_self_and` leaves `r = ±v → r in range`
  rw [eq_comm]
  cases neg with
  | false =>
    simp only [coerceS, Bool.false_eq_true, if_false, Nat.sub_lt_iff_lt_add hm]
    split
    · simp only [reduceCtorEq, false_iff]; omega
    · simp only [Option.some.injEq, iff_self_and]; omega
  | true =>
    rcases Nat.lt_or_ge m v with hv | hv
    · simp only [coerceS, if_true, hv, reduceCtorEq, false_iff]; omega
    · simp only [coerceS_true hm hd hv, Option.some.injEq, if_true, iff_self_and]; omega
end

end Flatcc.Num
