import FlatccModel.VerifierBasics
/-!
One generated call (`verifyKind`) is made of steps that cannot run out of fuel and of calls of `verifyTable`, put together by
`>>=` alone. So a relation between two runs that sequencing preserves (`SeqRel`) holds between the runs of a call as soon as
it holds between their table calls (`kind_rel`): "does not run out of fuel" and "the old schema accepts what the new one
accepts" are such relations.
-/
namespace Flatcc.Verifier

/-- the model's own recursion bound was not what ended the computation -/
def NF {α} (r : V α) : Prop := r ≠ .error .fuel

theorem nf_ok {α} {v : α} : NF (.ok v : V α) := by intro h; cases h

/-- a test that fails with another error than `.fuel`: the shape of `guard'` and of the three reads -/
theorem nf_ite {α} {p : Prop} [Decidable p] {v : α} {e : VErr} (he : e ≠ .fuel) :
    NF (if p then .ok v else .error e : V α) := by
  split
  · exact nf_ok
  · intro h; cases h; exact he rfl

theorem nf_guard {b : Bool} : NF (guard' b) := nf_ite (by decide)
theorem nf_rd8 {c : Ctx} {i : Nat} : NF (rd8 c i) := nf_ite (by decide)
theorem nf_rd16 {c : Ctx} {i : Nat} : NF (rd16 c i) := nf_ite (by decide)
theorem nf_rd32 {c : Ctx} {i : Nat} : NF (rd32 c i) := nf_ite (by decide)

theorem nf_bind {α β} {e : V α} {k : α → V β} (he : NF e) (hk : ∀ v, e = .ok v → NF (k v)) : NF (e >>= k) := by
  cases e with
  | error x => intro h; apply he; simpa [bind, Except.bind] using h
  | ok v => exact hk v rfl

theorem nf_verifyStruct {c : Ctx} {e base offset size align : Nat} : NF (verifyStruct c e base offset size align) := by
  unfold verifyStruct
  exact nf_bind nf_guard fun _ _ =>
    nf_bind nf_guard fun _ _ =>
    nf_bind nf_guard fun _ _ =>
    nf_guard

theorem nf_verifyString {c : Ctx} {base offset : Nat} : NF (verifyString c base offset) := by
  unfold verifyString
  exact nf_bind nf_guard fun _ _ =>
    nf_bind nf_rd32 fun _ _ =>
    nf_bind nf_guard fun _ _ =>
    nf_bind nf_rd8 fun _ _ =>
    nf_guard

theorem nf_verifyVector {c : Ctx} {base offset esz align maxc : Nat} : NF (verifyVector c base offset esz align maxc) := by
  unfold verifyVector
  exact nf_bind nf_guard fun _ _ =>
    nf_bind nf_rd32 fun _ _ =>
    nf_bind nf_guard fun _ _ =>
    nf_bind nf_guard fun _ _ =>
    nf_bind nf_guard fun _ _ =>
    nf_ok

theorem nf_verifyStrings {c : Ctx} : ∀ {cnt base}, NF (verifyStrings c cnt base) := by
  intro cnt
  induction cnt with
  | zero => intro base; unfold verifyStrings; exact nf_ok
  | succ n ih =>
    intro base
    unfold verifyStrings
    exact nf_bind nf_rd32 fun _ _ =>
      nf_bind nf_verifyString fun _ _ =>
      ih

theorem nf_verifyStringVector {c : Ctx} {base offset : Nat} : NF (verifyStringVector c base offset) := by
  unfold verifyStringVector
  exact nf_bind nf_verifyVector fun _ _ => nf_verifyStrings

theorem nf_readVtEntry {c : Ctx} {td : TD} {id : Nat} : NF (readVtEntry c td id) := by
  unfold readVtEntry
  simp only []
  split
  · exact nf_ok
  · exact nf_rd16

theorem nf_verifyField {c : Ctx} {td : TD} {id : Nat} {req : Bool} {size align : Nat} :
    NF (verifyField c td id req size align) := by
  unfold verifyField
  refine nf_bind nf_readVtEntry fun vte _ => ?_
  split
  · exact nf_guard
  · exact nf_bind nf_guard fun _ _ => nf_guard

theorem nf_getOffsetField {c : Ctx} {td : TD} {id : Nat} {req : Bool} : NF (getOffsetField c td id req) := by
  unfold getOffsetField
  refine nf_bind nf_readVtEntry fun vte _ => ?_
  split
  · exact nf_bind nf_guard fun _ _ => nf_ok
  · exact nf_bind nf_guard fun _ _ =>
      nf_bind nf_guard fun _ _ =>
      nf_ok

theorem nf_identifier {c : Ctx} {idHash i : Nat} :
    NF (if idHash = 0 then (pure () : V Unit) else rd32 c i >>= fun id => guard' (decide (id = idHash))) := by
  split
  · exact nf_ok
  · exact nf_bind nf_rd32 fun _ _ => nf_guard

theorem nf_verifyHeader {c : Ctx} {idHash : Nat} : NF (verifyHeader c idHash) := by
  unfold verifyHeader
  exact nf_bind nf_guard fun _ _ =>
    nf_bind nf_guard fun _ _ =>
    nf_bind nf_guard fun _ _ =>
    nf_identifier

theorem nf_verifyHeaderWithSize {c : Ctx} {idHash : Nat} : NF (verifyHeaderWithSize c idHash) := by
  unfold verifyHeaderWithSize
  exact nf_bind nf_guard fun _ _ =>
    nf_bind nf_guard fun _ _ =>
    nf_bind nf_guard fun _ _ =>
    nf_bind nf_rd32 fun _ _ =>
    nf_bind nf_guard fun _ _ =>
    nf_bind nf_identifier fun _ _ =>
    nf_ok

theorem nf_tableHeader {c : Ctx} {base offset : Nat} : NF (tableHeader c base offset) := by
  unfold tableHeader
  exact nf_bind nf_guard fun _ _ =>
    nf_bind nf_rd32 fun _ _ =>
    nf_bind nf_guard fun _ _ =>
    nf_bind nf_guard fun _ _ =>
    nf_bind nf_guard fun _ _ =>
    nf_bind nf_rd16 fun _ _ =>
    nf_bind nf_guard fun _ _ =>
    nf_bind nf_guard fun _ _ =>
    nf_bind nf_rd16 fun _ _ =>
    nf_bind nf_guard fun _ _ =>
    nf_ok

/-- `R` relates two runs and is kept by sequencing: both go on after the same step (`after`), or related steps are followed by
related steps (`seq`). `refl` and `after` ask that the common step cannot run out of fuel, and `kind_rel`'s hypotheses come with
`ttl ≤ td.ttl`, only because the instance `seqRel_nf` needs them; `seqRel_mono` ignores both. -/
structure SeqRel (R : V Unit → V Unit → Prop) : Prop where
  refl : ∀ {e : V Unit}, NF e → R e e
  after : ∀ {α} {e : V α} {k1 k2 : α → V Unit}, NF e → (∀ v, R (k1 v) (k2 v)) → R (e >>= k1) (e >>= k2)
  seq : ∀ {e1 e2 : V Unit} {k1 k2 : Unit → V Unit}, R e1 e2 → R (k1 ()) (k2 ()) → R (e1 >>= k1) (e2 >>= k2)

theorem seqRel_nf : SeqRel fun x _ => NF x where
  refl := id
  after he hk := nf_bind he fun v _ => hk v
  seq h1 hk := nf_bind h1 fun _ _ => hk

section
variable {R : V Unit → V Unit → Prop} (hR : SeqRel R) {A B : Schema} {c : Ctx} {fuel : Nat}
include hR

theorem offsetV_rel {td : TD} {id : Nat} {req : Bool} {K1 K2 : Nat → Nat → V Unit} (hK : ∀ b o, R (K1 b o) (K2 b o)) :
    R (offsetV c td id req K1) (offsetV c td id req K2) := by
  unfold offsetV
  refine hR.after nf_getOffsetField fun r => ?_
  cases r with
  | none => exact hR.refl nf_ok
  | some b => exact hR.after nf_rd32 fun o => hK b o

theorem tables_rel {ttl : Int} {t : Nat}
    (hT : ∀ b o, R (verifyTable B c fuel b o ttl t) (verifyTable A c fuel b o ttl t)) :
    ∀ cnt base, R (verifyTables B c fuel ttl t cnt base) (verifyTables A c fuel ttl t cnt base) := by
  intro cnt
  induction cnt with
  | zero => intro base; rw [verifyTables, verifyTables]; exact hR.refl nf_ok
  | succ n ih =>
    intro base
    rw [verifyTables, verifyTables]
    exact hR.after nf_rd32 fun o => hR.seq (hT base o) (ih _)

theorem unions_rel {ttl : Int} {u : Nat}
    (hM : ∀ ty b o, R (verifyMember B c fuel b o ttl (lookupMember (B.union u) ty))
                      (verifyMember A c fuel b o ttl (lookupMember (A.union u) ty))) :
    ∀ cnt tbase base, R (verifyUnions B c fuel ttl u cnt tbase base) (verifyUnions A c fuel ttl u cnt tbase base) := by
  intro cnt
  induction cnt with
  | zero => intro tbase base; rw [verifyUnions, verifyUnions]; exact hR.refl nf_ok
  | succ n ih =>
    intro tbase base
    rw [verifyUnions, verifyUnions]
    refine hR.after nf_rd32 fun elem => hR.after nf_rd8 fun ty => hR.seq ?_ (ih _ _)
    split
    · exact hR.refl nf_guard
    · exact hR.after nf_guard fun _ => hM ty base elem

theorem kind_rel (td : TD) (f : Field)
    (hT : ∀ c' b o ttl t, ttl ≤ td.ttl → R (verifyTable B c' fuel b o ttl t) (verifyTable A c' fuel b o ttl t))
    (hM : ∀ u ty b o ttl, ttl ≤ td.ttl → R (verifyMember B c fuel b o ttl (lookupMember (B.union u) ty))
                                            (verifyMember A c fuel b o ttl (lookupMember (A.union u) ty))) :
    R (verifyKind B c fuel td f) (verifyKind A c fuel td f) := by
  have le1 : td.ttl - 1 ≤ td.ttl := Int.sub_le_self _ (by decide)
  obtain ⟨id, req, kind⟩ := f
  unfold verifyKind
  cases kind with
  | scalar s a =>
    exact hR.refl nf_verifyField
  | string =>
    exact offsetV_rel hR fun _ _ => hR.refl nf_verifyString
  | vector e a m =>
    exact offsetV_rel hR fun _ _ => hR.after nf_verifyVector fun _ => hR.refl nf_ok
  | stringVector =>
    exact offsetV_rel hR fun _ _ => hR.refl nf_verifyStringVector
  | table t =>
    exact offsetV_rel hR fun b o => hT c b o td.ttl t (Int.le_refl _)
  | tableVector t =>
    exact offsetV_rel hR fun b o =>
      hR.after nf_guard fun _ =>
      hR.after nf_verifyVector fun n =>
      tables_rel hR (fun b o => hT c b o _ t le1) n _
  | union u =>
    refine hR.after nf_readVtEntry fun vteType => ?_
    by_cases h0 : vteType = 0
    · rw [if_pos h0, if_pos h0]
      exact hR.refl (nf_bind nf_readVtEntry fun _ _ => nf_bind nf_guard fun _ _ => nf_guard)
    · rw [if_neg h0, if_neg h0]
      refine hR.after nf_verifyField fun _ =>
        hR.after nf_readVtEntry fun _ =>
        hR.after nf_rd8 fun ty =>
        hR.after nf_guard fun _ => ?_
      by_cases hty : ty = 0
      · rw [if_pos hty, if_pos hty]
        exact hR.refl nf_ok
      · rw [if_neg hty, if_neg hty]
        exact offsetV_rel hR fun b o => hM u ty b o td.ttl (Int.le_refl _)
  | unionVector u =>
    refine hR.after nf_readVtEntry fun vteType => hR.after ?_ fun _ =>
      offsetV_rel hR fun tb to =>
      hR.after nf_verifyVector fun count =>
      offsetV_rel hR fun b o =>
      hR.after nf_guard fun _ =>
      hR.after nf_verifyVector fun n =>
      hR.after nf_guard fun _ =>
      unions_rel hR (fun ty b o => hM u ty b o _ le1) n _ _
    split
    · exact nf_bind nf_readVtEntry fun _ _ => nf_bind nf_guard fun _ _ => nf_guard
    · exact nf_ok
  | nestedTable t a =>
    -- the nested bytes are verified as a buffer of their own, at their own address: the hypothesis for every buffer applies
    refine offsetV_rel hR fun b o => hR.after nf_verifyVector fun len => ?_
    unfold verifyNestedTable
    exact hR.after nf_verifyHeader fun _ =>
      hR.after nf_rd32 fun ro =>
      hT _ 0 ro td.ttl t (Int.le_refl _)
  | nestedStruct s a =>
    exact offsetV_rel hR fun _ _ => hR.refl <|
      nf_bind nf_verifyVector fun _ _ =>
      nf_bind nf_verifyHeader fun _ _ =>
      nf_bind nf_rd32 fun _ _ =>
      nf_verifyStruct

end

end Flatcc.Verifier
