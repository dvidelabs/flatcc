-- Root of the `FlatccModel` library: every model, proof and property file.
import FlatccModel.Alloc
import FlatccModel.AllocProofs
import FlatccModel.ArrayLemmas
import FlatccModel.Base64
import FlatccModel.Base64Proofs
import FlatccModel.Builder
import FlatccModel.BuilderBytes
import FlatccModel.BuilderEmit
import FlatccModel.BuilderHeader
import FlatccModel.BuilderIov
import FlatccModel.BuilderIovProofs
import FlatccModel.BuilderReplay
import FlatccModel.BuilderReplayProofs
import FlatccModel.BuilderTable
import FlatccModel.CharArray
import FlatccModel.CharArrayProofs
import FlatccModel.Clone
import FlatccModel.CloneProofs
import FlatccModel.Emitter
import FlatccModel.EmitterProofs
import FlatccModel.Evolution
import FlatccModel.Find
import FlatccModel.FindProofs
import FlatccModel.Generated.Consts
import FlatccModel.Generated.ResetFields
import FlatccModel.Ident
import FlatccModel.Json
import FlatccModel.JsonProofs
import FlatccModel.JsonScan
import FlatccModel.JsonScanProofs
import FlatccModel.Layout
import FlatccModel.Num
import FlatccModel.NumProofs
import FlatccModel.PrintFlush
import FlatccModel.PrintFlushProofs
import FlatccModel.Reader
import FlatccModel.Refmap
import FlatccModel.RefmapCore
import FlatccModel.RefmapCoreProofs
import FlatccModel.RefmapFault
import FlatccModel.RefmapFaultProofs
import FlatccModel.RefmapProofs
import FlatccModel.ScanSwap
import FlatccModel.ScanSwapProofs
import FlatccModel.SchemaNum
import FlatccModel.SchemaNumProofs
import FlatccModel.Sort
import FlatccModel.SortProofs
import FlatccModel.Sortable
import FlatccModel.SortableProofs
import FlatccModel.SorterRun
import FlatccModel.SorterRunProofs
import FlatccModel.StructGraph
import FlatccModel.StructGraphProofs
import FlatccModel.Trie
import FlatccModel.TrieGen
import FlatccModel.TrieProofs
import FlatccModel.Util
import FlatccModel.Verifier
import FlatccModel.VerifierAttr
import FlatccModel.VerifierBasics
import FlatccModel.VerifierDepth
import FlatccModel.VerifierLeaves
import FlatccModel.VerifierSeq
import FlatccModel.VerifierSound
import FlatccModel.VerifierTable
import FlatccModel.VerifierWF
import FlatccModel.VerifierWFProofs
import FlatccModel.Props.C01
import FlatccModel.Props.C01_Depth
import FlatccModel.Props.C02
import FlatccModel.Props.C03
import FlatccModel.Props.C03_Vectors
import FlatccModel.Props.C04
import FlatccModel.Props.C04_CharArray
import FlatccModel.Props.C05
import FlatccModel.Props.C05_CharArray
import FlatccModel.Props.C06
import FlatccModel.Props.C07
import FlatccModel.Props.C08
import FlatccModel.Props.C09
import FlatccModel.Props.C09_Dep
import FlatccModel.Props.C10
import FlatccModel.Props.C11
import FlatccModel.Props.C12
import FlatccModel.Props.C12_Builder
import FlatccModel.Props.C12_Iov
import FlatccModel.Props.C13
import FlatccModel.Props.C13_Refmap
import FlatccModel.Props.C14
import FlatccModel.Props.C15
import FlatccModel.Props.C16
import FlatccModel.Props.C16_Sortable
import FlatccModel.Props.C16_SorterRun
import FlatccModel.Props.C17
import FlatccModel.Props.C18
import FlatccModel.Props.C18_Clone
import FlatccModel.Props.C19
import FlatccModel.Props.C20
