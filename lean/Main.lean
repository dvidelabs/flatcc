import FlatccModel.Util
import FlatccModel.Num
import FlatccModel.Sort
import FlatccModel.Find
import FlatccModel.ScanSwap
import FlatccModel.RefmapFault
import FlatccModel.Reader
import FlatccModel.VerifierWF
import FlatccModel.Ident
import FlatccModel.Emitter
import FlatccModel.PrintFlush
import FlatccModel.SchemaNum
import FlatccModel.Layout
import FlatccModel.Trie
import FlatccModel.TrieGen
import FlatccModel.Base64
import FlatccModel.CharArray
import FlatccModel.JsonScan
import FlatccModel.Builder
import FlatccModel.Alloc
import FlatccModel.StructGraph
import FlatccModel.Clone
import FlatccModel.BuilderIov
import FlatccModel.Sortable
/-! `fmodel`: executes the model's definitions on protocol lines (stdin → stdout, one result line per op line). -/
open Flatcc Flatcc.Util

namespace Drv

def numOp (args : List String) : String :=
  open Flatcc.Num in
  match args with
  | ["pu", bits, n] =>
    let v := natArg n
    bytesToStr (match bits with
      | "8" => printU8 v | "16" => printU16 v | "32" => printU32 v | _ => printU64 v)
  | ["pi", bits, n] =>
    let v := intArg n
    bytesToStr (match bits with
      | "8" => printI8 v | "16" => printI16 v | "32" => printI32 v | _ => printI64 v)
  | ["ji", ty, hex] =>
    match jsonInteger (hexToBytes hex) with
    | .nomatch => "nomatch"
    | .range => "range"
    | .floatUnexpected => "float"
    | .ok neg v k =>
      let u (lim : Nat) := match coerceU lim neg v with | some r => s!"ok {r} {k}" | none => "range"
      let s (m : Nat) := match coerceS m neg v with | some r => s!"ok {r} {k}" | none => "range"
      match ty with
      | "u8" => u 256 | "u16" => u 65536 | "u32" => u 4294967296 | "u64" => u 18446744073709551616
      | "i8" => s 128 | "i16" => s 32768 | "i32" => s 2147483648 | "i64" => s 9223372036854775808
      | "bool" => (match coerceBool neg v with | some r => s!"ok {r} {k}" | none => "range")
      | _ => "bad-op"
  | _ => "bad-op"

/-- items "k:p,k:p" → (key text, payload text) -/
def parseItems (s : String) : Array (String × String) :=
  if s == "_" then #[] else
  (s.splitOn ",").toArray.map (fun it =>
    match it.splitOn ":" with
    | [k] => (k, "")
    | k :: p :: _ => (k, p)
    | [] => ("", ""))

def showItems (xs : Array (String × String)) : String :=
  if xs.isEmpty then "_" else
  ",".intercalate (xs.toList.map (fun (k, p) => if p == "" then k else k ++ ":" ++ p))

def isStrKind (k : String) : Bool := k == "str" || k == "nn"

def sortOp (args : List String) : String :=
  open Flatcc.Sort in
  match args with
  | ["sort", kind, items] =>
    let xs := parseItems items
    let sorted :=
      if isStrKind kind then
        let ys : Array (List Nat × String × String) := xs.map (fun (k, p) => (hexToBytes k, k, p))
        let r := heapSort (fun a b => decide (stringNCmp a.1 b.1 < 0)) ys
        r.map (fun (_, k, p) => (k, p))
      else
        let ys : Array (Int × String × String) := xs.map (fun (k, p) => (intArg k, k, p))
        let r := heapSort (fun a b => scalarLt a.1 b.1) ys
        r.map (fun (_, k, p) => (k, p))
    showItems sorted ++ " frame=same verify=ok"
  | [op, kind, items, b, e, key] =>
    let xs := parseItems items
    let len := xs.size
    let bN := natArg b
    let eN := if e == "end" then 18446744073709551615 else natArg e
    let cmp : Nat → Int :=
      if isStrKind kind then
        let ks := xs.map (fun (k, _) => hexToBytes k)
        let kb := hexToBytes key
        if op == "findn" || op == "scann" || op == "rscann" then fun i => stringNCmp ks[i]! kb
        else fun i => strcmp ks[i]! kb
      else
        let ks := xs.map (fun (k, _) => intArg k)
        let kv := intArg key
        fun i => scalarCmp ks[i]! kv
    let r :=
      if op == "find" || op == "findn" then find cmp len
      else if op == "scan" || op == "scann" then scan cmp len bN eN
      else if op == "rscan" || op == "rscann" then rscan cmp len bN eN
      else if op == "scanall" then scan cmp len 0 len
      else if op == "rscanall" then rscan cmp len 0 len
      else none
    match r with
    | some i => toString i
    | none => "nf"
  | _ => "bad-op"

/-- refmap <op,op,...>: i<k>:<ref> | f<k> | r<n> | R | C ; output: results joined by ',' then ' b<buckets> c<count> inv=<ok> spec=<ok>' -/
def refmapOp (args : List String) : String :=
  open Flatcc.Refmap in
  match args with
  | [opsS] =>
    let toks := if opsS == "_" then [] else opsS.splitOn ","
    -- a leading `X` = the allocator refuses every request made during this call
    let ops : List (Op × Bool) := toks.map (fun t0 =>
      let ok := !t0.startsWith "X"
      let t := if ok then t0 else (t0.drop 1).toString
      let body := (t.drop 1).toString
      (if t.startsWith "i" then
        match body.splitOn ":" with
        | [k, r] => Op.ins (natArg k) (intArg r)
        | _ => Op.clr
      else if t.startsWith "f" then Op.fnd (natArg body)
      else if t.startsWith "r" then Op.rsz (natArg body)
      else if t == "R" then Op.rst else Op.clr, ok))
    -- run, collecting outputs, checking the invariant and the abstract spec after every step
    let (m, outs, invAll, specAll, _) := ops.foldl (fun (acc : Map × List String × Bool × Bool × List Op) opk =>
      let (m, outs, iv, sp, hist) := acc
      let op := opk.1
      let (m', r) := stepF murmur m op opk.2
      let hist' := effective m op opk.2 :: hist
      let spOk := match op with
        | .fnd k => r == spec hist k
        | _ => true
      (m', toString r :: outs, iv && (m'.rm.buckets > 64 || invOk murmur m') && !m'.nested, sp && spOk, hist')) (Map.init, [], true, true, [])
    ",".intercalate outs.reverse ++ s!" b{m.rm.buckets} c{m.count} inv={invAll && invOk murmur m} spec={specAll}"
  | _ => "bad-op"

/-! ### verifier / reader -/
open Flatcc.Verifier in
def parseField (s : String) : Field :=
  match s.splitOn ":" with
  | id :: req :: kind :: args =>
    let a (i : Nat) := natArg (args.getD i "0")
    let k : Kind := match kind with
      | "s" => .scalar (a 0) (a 1)
      | "str" => .string
      | "v" => .vector (a 0) (a 1) (a 2)
      | "sv" => .stringVector
      | "t" => .table (a 0 % 16)
      | "tv" => .tableVector (a 0 % 16)
      | "u" => .union (a 0 % 16)
      | "nt" => .nestedTable (a 0 % 16) (a 1)
      | "ns" => .nestedStruct (a 0) (a 1)
      | _ => .unionVector (a 0 % 16)
    { id := natArg id, required := natArg req != 0, kind := k }
  | _ => { id := 0, required := false, kind := .string }

open Flatcc.Verifier in
def parseMember (s : String) : Nat × Member :=
  match s.splitOn ":" with
  | code :: kind :: args =>
    let a (i : Nat) := natArg (args.getD i "0")
    (natArg code, match kind with
      | "t" => .table (a 0 % 16)
      | "st" => .struct (a 0) (a 1)
      | _ => .string)
  | _ => (0, .string)

open Flatcc.Verifier in
def parseSchema (s : String) : Schema :=
  let parts := s.splitOn "#"
  let tabs := (parts.getD 0 "").splitOn ";"
  let uns := if parts.length > 1 then (parts.getD 1 "").splitOn "|" else []
  { tables := tabs.map (fun t => if t == "_" || t == "" then [] else (t.splitOn ",").map parseField),
    unions := uns.map (fun u => if u == "_" || u == "" then [] else (u.splitOn ",").map parseMember) }

open Flatcc.Verifier in
def showAcc (l : List Access) : String :=
  ",".intercalate (l.map (fun a => s!"{a.addr}:{a.len}:{a.align}"))

open Flatcc.Verifier in
def verifyOp (S : Schema) (args : List String) : String :=
  match args with
  | [root, variant, idS, shiftS, hex] =>
    let bytes := (hexToBytes hex).toArray
    let c : Ctx := { buf := fun i => bytes.getD i 0, n := bytes.size, A := 1048576 + natArg shiftS % 4096 }
    let withSize := variant == "size" || variant == "typedsize"
    let typed := variant == "typed" || variant == "typedsize"
    let idb := if idS == "-" then [] else hexToBytes idS
    let idHash := if idS == "-" then 0
      else if typed then idb.getD 0 0 + 256 * idb.getD 1 0 + 65536 * idb.getD 2 0 + 16777216 * idb.getD 3 0
      else hashFromString (idb ++ [0, 0, 0, 0])
    let b0 := if withSize then 4 else 0
    if root.startsWith "t" then
      let t := natArg (root.drop 1).toString % 16
      let r := if withSize then verifyTableAsRootWithSize S c idHash t else verifyTableAsRoot S c idHash t
      match r with
      | .ok _ => "ok " ++ showAcc (⟨b0, 4, 4⟩ :: tableAcc S c 200 (b0 + r32 c b0) t)
      | .error .oob => "MODEL-OOB"
      | .error .fuel => "MODEL-FUEL"
      | .error .reject => "reject"
    else
      match root.splitOn ":" with
      | [_, sz, al] =>
        let r := if withSize then verifyStructAsRootWithSize c idHash (natArg sz) (natArg al)
                 else verifyStructAsRoot c idHash (natArg sz) (natArg al)
        match r with
        | .ok _ => "ok " ++ showAcc [⟨b0, 4, 4⟩, ⟨b0 + r32 c b0, natArg sz, natArg al⟩]
        | .error .oob => "MODEL-OOB"
        | .error .fuel => "MODEL-FUEL"
        | .error .reject => "reject"
      | _ => "bad-op"
  | _ => "bad-op"

structure DrvState where
  schema : Flatcc.Verifier.Schema := { tables := [], unions := [] }

def stepS (st : DrvState) (line : String) : DrvState × String :=
  let l := line.trimAscii.toString
  if l.startsWith "schema " then
    let S := parseSchema (l.drop 7).toString
    ({ st with schema := S }, s!"schema {S.tables.length} {S.unions.length}")
  else match l.splitOn " " with
    | "verify" :: args => (st, verifyOp st.schema args)
    | ["wf", m] =>
      -- the hypothesis of C01_generated_verifier, evaluated on the current (translated) descriptor set
      (st, if Flatcc.Verifier.wfB st.schema (natArg m) then "wf ok"
           else match Flatcc.Verifier.wfFirstBad st.schema (natArg m) with
             | some (ti, id) => s!"wf FAIL table {ti} field id {id}"
             | none => "wf FAIL (union member or M)")
    | _ => (st, "")

def identOp (args : List String) : String :=
  open Flatcc.Ident Flatcc.Verifier in
  match args with
  | ["hash", hex] => toString (typeHashFromName (hexToBytes hex))
  | ["chash", scope, name] =>
    let sc := if scope == "-" then [] else (scope.splitOn ".").map hexToBytes
    toString (compileTypeHash sc (hexToBytes name))
  | ["fromstr", hex] => toString (hashFromString (hexToBytes hex ++ [0, 0, 0, 0]))
  | ["id2hash", hex] => toString (hashFromIdentifier (hexToBytes hex))
  | ["hash2id", h] => bytesToHex (identifierFromHash (natArg h))
  | ["has", fid, stored] =>
    if hasIdentifier (natArg stored) (if fid == "null" then none else some (hexToBytes fid)) then "1" else "0"
  | ["hastype", th, stored] => if hasTypeHash (natArg stored) (natArg th) then "1" else "0"
  | ["stored", fid, _ws] =>
    match storedIdentifier (if fid == "null" then none else some (hexToBytes fid)) with
    | none => "none"
    | some s => "id " ++ bytesToHex s
  | _ => "bad-op"

def fnvBytes (l : List Nat) : Nat := l.foldl (fun h b => ((h ^^^ (b % 256)) * 16777619) % 4294967296) 2166136261

def hex8 (n : Nat) : String :=
  String.ofList ((List.range 8).reverse.map (fun i => hexDigit (n / 16 ^ i % 16)))

/-- emit <ops>: see harness/h_emit.c -/
def emitOp (args : List String) : String :=
  open Flatcc.Emitter in
  match args with
  | [opsS] =>
    let toks := opsS.splitOn ","
    let gen (ctr len : Nat) : List Nat := (List.range len).map (fun i => ((ctr + i) * 131 + 7) % 251)
    let (s, _, outs) := toks.foldl (fun (acc : Em × Nat × List String) t =>
      let (s, ctr, outs) := acc
      if t.startsWith "f" || t.startsWith "b" then
        let sizes := ((t.drop 1).toString.splitOn "+").map natArg
        let len := sizes.sum
        let data := gen ctr len
        let pieces := (sizes.foldl (fun (a : List (List Nat) × List Nat) n => (a.1 ++ [a.2.take n], a.2.drop n)) ([], data)).1
        let s' := if t.startsWith "f" then emitFront s pieces else emitBack s pieces
        (s', ctr + len, outs ++ ["0"])
      else if t == "c" || t.startsWith "k" then
        let size := s.used
        let bufsize := if t == "c" then size else natArg (t.drop 1).toString
        let d := match directBuffer s with
          | some l => s!"y:{size}:{hex8 (fnvBytes l)}"
          | none => "n"
        let c := match copyBuffer s bufsize with
          | some l => s!"ok:{hex8 (fnvBytes l)}"
          | none => "null"
        (s, ctr, outs ++ [s!"size={size} direct={d} copy={c}"])
      else if t == "R" then (reset s, ctr, outs ++ ["R"])
      else if t == "C" then (Em.init s.page, ctr, outs ++ ["C"])
      else (s, ctr, outs ++ ["?"])) (Em.init Flatcc.Consts.emitterPageSize, 0, [])
    " ".intercalate outs ++ s!" cap={s.capacity}"
  | _ => "bad-op"

/-- pr <mode> <events>: see harness/h_print.c -/
def prOp (args : List String) : String :=
  open Flatcc.PrintFlush in
  match args with
  | [modeS, evS] =>
    let s0 : Pr :=
      if modeS.startsWith "fixed:" then initFixed (natArg (modeS.drop 6).toString)
      else if modeS.startsWith "dyn:" then initDynamic (natArg (modeS.drop 4).toString)
      else initFile
    let gen (ctr len : Nat) : List Nat := (List.range len).map (fun i => ((ctr + i) * 131 + 7) % 251)
    let (s, _) := (evS.splitOn ",").foldl (fun (acc : Pr × Nat) t =>
      let (s, ctr) := acc
      let k := natArg (t.drop 1).toString
      if t.startsWith "r" then ((List.range k).foldl (fun s i => stepEv s (.raw (gen (ctr + i) 1))) s, ctr + k)
      else if t.startsWith "w" then (stepEv s (.print (gen ctr k)), ctr + k)
      else if t.startsWith "i" then (stepEv s (.indent k), ctr)
      else if t == "p" then (stepEv s .fpartial, ctr)
      else if t == "F" then (stepEv s .flushAll, ctr)
      else (s, ctr)) (s0, 0)
    -- what the API reports at the end
    let s := match s.mode with
      | .fixed => flush s false          -- get_buffer flushes (may raise overflow)
      | .dynamic => flush s false
      | .file => flush s true
    let err := s.overflow
    if s.mode == .fixed && err then "err=1 total=0 len=0 text=-"
    else
      let t := text s
      s!"err={if err then 1 else 0} total={s.total + s.buf.length} len={t.length} text={hex8 (fnvBytes t)}"
  | _ => "bad-op"

open Flatcc.SchemaNum in
def styOf (s : String) : Option STy :=
  match s with
  | "ubyte" => some .ubyte | "ushort" => some .ushort | "uint" => some .uint | "ulong" => some .ulong
  | "byte" => some .byte | "short" => some .short | "int" => some .int | "long" => some .long | "bool" => some .bool
  | "uint8" => some .ubyte | "uint16" => some .ushort | "uint32" => some .uint | "uint64" => some .ulong
  | "int8" => some .byte | "int16" => some .short | "int32" => some .int | "int64" => some .long
  | _ => none

open Flatcc.SchemaNum in
def litOf (t : String) : Option Lit :=
  if t == "true" then some (.bool true) else if t == "false" then some (.bool false) else
  let neg := t.startsWith "-"
  let body := if neg then (t.drop 1).toString else t
  if body.startsWith "0x" || body.startsWith "0X" then
    let ds := (body.drop 2).toString.toList
    if ds.all (fun c => c.isDigit || ('a' ≤ c ∧ c ≤ 'f') || ('A' ≤ c ∧ c ≤ 'F')) then some (.hex neg (ds.map Flatcc.Util.hexVal)) else none
  else
    let ds := body.toList
    if !ds.isEmpty && ds.all Char.isDigit then some (.dec neg (ds.map Char.toNat)) else none

def u64Of (i : Int) : Nat := (i % 18446744073709551616).toNat

def schemaNumOp (op : String) (args : List String) : String :=
  open Flatcc.SchemaNum in
  match op, args with
  | "lit", [ob, ty, hex] =>
    match styOf ty, litOf (bytesToStr (hexToBytes hex)) with
    | some st, some l =>
      (match acceptLit (natArg ob % 2 == 1) st l with
       | some v => s!"ok {u64Of v}"
       | none => "reject")
    | _, _ => "unmodelled"
  | "enum", [ob, ty, items] =>
    match styOf ty with
    | some st =>
      let ms : List (Option (Option Val)) := (items.splitOn ",").map (fun t =>
        if t == "_" then some none else
        match litOf t with
        | some l => (match readLit l with | .invalid => none | v => some (some v))
        | none => none)
      if ms.any Option.isNone then "reject" else
      (match (if natArg ob / 2 % 2 == 1 then enumFlagValues else enumValues) st none (ms.map (fun m => m.getD none)) with
       | some vs => "ok " ++ ",".intercalate (vs.map (fun v => toString (u64Of v)))
       | none => "reject")
    | none => "unmodelled"
  | "falign", [nat, tok] =>
    -- struct S (force_align: <tok>) over a member of natural alignment <nat>: the struct's alignment, or reject
    match litOf tok with
    | some l => (match forceAlign l (natArg nat) with | some a => s!"ok {a}" | none => "reject")
    | none => "reject"
  | _, _ => "bad-op"

def layoutOp (op : String) (args : List String) : String :=
  open Flatcc.Layout in
  match op, args with
  | "layout", [fa, ms] =>
    let members : List Member := if ms == "_" then [] else (ms.splitOn ",").map (fun t =>
      match t.splitOn ":" with
      | [s, a] => ⟨natArg s, natArg a⟩
      | _ => ⟨0, 1⟩)
    (match layoutStruct members (natArg fa) with
     | some (size, align, offs) => s!"{size} {align} " ++ ",".intercalate (offs.map toString)
     | none => "reject")
  | "ids", [bs] =>
    let fields := if bs == "_" then [] else (bs.splitOn ",").map (fun t => t == "1")
    ",".intercalate ((assignIds fields 0).map toString)
  | _, _ => "bad-op"

/-! ### generated JSON parser tries -/
partial def parseTree (toks : Array String) (i : Nat) : Flatcc.Trie.Tree × Nat :=
  match toks.getD i "U" with
  | "L" =>
    let tag := hexToBytes (toks.getD (i + 1) "")
    let (l, j) := parseTree toks (i + 2)
    let (r, k) := parseTree toks j
    (.lt tag l r, k)
  | "E" =>
    let n := natArg (toks.getD (i + 1) "0")
    let bs := hexToBytes (toks.getD (i + 2) "")
    let (t, j) := parseTree toks (i + 3)
    let (e, k) := parseTree toks j
    (.eqm n bs t e, k)
  | "M" =>
    let (f, j) := parseTree toks (i + 3)
    (.matchAt (natArg (toks.getD (i + 1) "0")) (natArg (toks.getD (i + 2) "0")) f, j)
  | "D" => let (t, j) := parseTree toks (i + 1); (.descend t, j)
  | _ => (.unmatched, i + 1)

def bytesOfWord (w : Nat) : List Nat := (List.range 8).map (fun i => (w / 2 ^ (56 - 8 * i)) % 256)
def maskBytes (m : Nat) : Nat := ((List.range 9).find? (fun n => m == 2^64 - 2^(8 * (8 - n)))).getD 99

partial def convGen : Flatcc.TrieGen.Tree → Flatcc.Trie.Tree
  | .lt tag l r => .lt (bytesOfWord tag) (convGen l) (convGen r)
  | .eqm mask tag t e => let n := maskBytes mask; .eqm n ((bytesOfWord tag).take n) (convGen t) (convGen e)
  | .matchAt idx n fail => .matchAt idx n (convGen fail)
  | .descend t => .descend (convGen t)
  | .unmatched => .unmatched
  | .bug _ => .unmatched

partial def treeEq : Flatcc.Trie.Tree → Flatcc.Trie.Tree → Bool
  | .lt a l r, .lt b l2 r2 => a == b && treeEq l l2 && treeEq r r2
  | .eqm n bs t e, .eqm n2 bs2 t2 e2 => n == n2 && bs == bs2 && treeEq t t2 && treeEq e e2
  | .matchAt i n f, .matchAt i2 n2 f2 => i == i2 && n == n2 && treeEq f f2
  | .descend t, .descend t2 => treeEq t t2
  | .unmatched, .unmatched => true
  | _, _ => false

/-- trie <dict hex;hex;…> <tree tokens> <probes hex;hex;…|-> -/
def trieOp (args : List String) : String :=
  match args with
  | [dictS, treeS, probesS] =>
    let d : List (List Nat) := (dictS.splitOn ";").map hexToBytes
    let (t, _) := parseTree (treeS.splitOn ",").toArray 0
    let sndOk := Flatcc.Trie.snd d t [] []
    let bad := (List.range d.length).find? (fun i => !Flatcc.Trie.cmp (d.getD i []) i t 0)
    let termFree := d.all (fun k => k.all (fun b => b != 34))
    let distinct := d.eraseDups.length == d.length
    let g := convGen (Flatcc.TrieGen.genTrie d.toArray 0 (d.length - 1) 0)
    let same := treeEq g t
    let probes := if probesS == "-" then [] else (probesS.splitOn ";").map hexToBytes
    let rs := probes.map (fun s => match Flatcc.Trie.eval t s 0 with | some i => toString i | none => "u")
    s!"snd={sndOk} cmp={match bad with | some i => toString i | none => "ok"} keys={termFree && distinct} gen={if same then "same" else "diff"} probes={";".intercalate rs}"
  | _ => "bad-op"


/-! builder value trees -/
partial def parseVal (toks : Array String) (i : Nat) : Flatcc.Builder.Val × Nat :=
  open Flatcc.Builder in
  let nat (j : Nat) := (toks.getD j "0").toNat!
  let hex (j : Nat) := let t := toks.getD j "-"; if t == "-" then [] else hexToBytes t
  match toks.getD i "N" with
  | "T" =>
    let n := nat (i + 1)
    let (fs, j) := (List.range n).foldl (fun (acc : List (Nat × Val) × Nat) _ =>
      let id := nat acc.2
      let (v, j) := parseVal toks (acc.2 + 1)
      (acc.1 ++ [(id, v)], j)) ([], i + 2)
    (.tab fs, j)
  | "W" =>
    let n := nat (i + 1)
    let (fs, j) := (List.range n).foldl (fun (acc : List (Nat × Val) × Nat) _ =>
      let ty := nat acc.2
      let (v, j) := parseVal toks (acc.2 + 1)
      (acc.1 ++ [(ty, v)], j)) ([], i + 2)
    (.uvec fs, j)
  | "o" =>
    let n := nat (i + 1)
    let (fs, j) := (List.range n).foldl (fun (acc : List Val × Nat) _ =>
      let (v, j) := parseVal toks acc.2
      (acc.1 ++ [v], j)) ([], i + 2)
    (.ovec fs, j)
  | "i" => (.inl (nat (i + 1)) (nat (i + 2)) (hex (i + 3)), i + 4)
  | "v" => (.vec (nat (i + 1)) (nat (i + 2)) (hex (i + 3)), i + 4)
  | "u" => (.struct (nat (i + 1)) (hex (i + 2)), i + 3)
  | "E" => (.embed (nat (i + 1) != 0) (nat (i + 2)) (nat (i + 3)) (hex (i + 4)), i + 5)
  | "s" => (.str (hex (i + 1)), i + 2)
  | "r" => (.ref (nat (i + 1)), i + 2)
  | "B" =>
    let (v, j) := parseVal toks (i + 4)
    (.nested (hex (i + 1)) (nat (i + 2) != 0) (nat (i + 3)) v, j)
  | "U" =>
    let (v, j) := parseVal toks (i + 2)
    (.union (nat (i + 1)) v, j)
  | _ => (.null, i + 1)

def buildOp (args : List String) : String :=
  open Flatcc.Builder in
  match args with
  | flags :: ident :: ba :: _style :: toks =>
    let fl := flags.toNat!
    let (v, _) := parseVal toks.toArray 0
    let cfg : Config := { ident := if ident == "-" then [] else hexToBytes ident, withSize := fl % 2 == 1,
                          blockAlign := ba.toNat!, clustering := fl / 2 % 2 == 0, pre := fl / 8 % 2 == 1 }
    let (bytes, al, emits) := build cfg v
    let es := ",".intercalate (emits.map (fun e => s!"{e.1}:{e.2}"))
    s!"ok {al} {bytesToHex bytes} {if es.isEmpty then "-" else es}"
  | _ => "bad-op"

/-- vtcache <hash:hexvt,...>: `flatcc_builder_create_cached_vtable` called directly on a fresh builder, one call per
item; prints the reference each call returned (equal references = the cached vtable was reused) -/
def vtcacheOp (args : List String) : String :=
  open Flatcc.Builder in
  match args with
  | [items] =>
    let (_, outs) := (items.splitOn ",").foldl (fun (acc : BS × List String) it =>
      match it.splitOn ":" with
      | [h, hex] => let (s', r) := createCachedVtable acc.1 (hexToBytes hex) h.toNat!; (s', acc.2 ++ [toString r])
      | _ => (acc.1, acc.2 ++ ["bad"])) (initBS, [])
    ",".intercalate outs
  | _ => "bad-op"

/-- clone <usemap 0/1> <root address> <addr:kid.kid...;addr:...>: the generated clone on a source object graph (addresses as the
independent decoder found them in the source buffer); prints the number of objects created and of reference map entries -/
def cloneOp (args : List String) : String :=
  open Flatcc.Clone in
  match args with
  | [um, root, graph] =>
    let objs : List (Nat × SObj) := (graph.splitOn ";").filterMap (fun it =>
      match it.splitOn ":" with
      | [a, ks] => some (a.toNat!, { payload := [], kids := if ks.isEmpty then [] else (ks.splitOn ".").map String.toNat! })
      | _ => none)
    let src : Src := fun a => (objs.find? (fun e => e.1 == a)).map Prod.snd
    match clone (um == "1") src (objs.length + 1) root.toNat! init with
    | some (r, st) => s!"ok r={r} objs={st.dst.length} memo={st.memo.length}"
    | none => "fail"
  | _ => "bad-op"

/-- iov <fill> <clustering 0/1> <kind> <args..>: the pieces (`iov` entries) of the emit call one `create_*` call makes when `fill`
bytes were emitted at the front before (BuilderIov.lean; theorems in Props/C12_Iov.lean); printed as F|B <len> : piece lengths -/
def iovOp (args : List String) : String :=
  open Flatcc.Builder in
  match args with
  | fill :: cl :: kind :: rest =>
    let s0 : BS := { initBS with clustering := cl == "1" }
    let (s, r0) := if fill.toNat! = 0 then (s0, (0 : Int)) else createStruct s0 (zeros fill.toNat!) 1
    let pr (tag : String) (ps : List (List Nat)) : String :=
      s!"ok {tag}{(ps.map List.length).foldl (· + ·) 0}:{"+".intercalate (ps.map (fun p => toString p.length))}"
    match kind, rest with
    | "str", [hex] => pr "F" (stringIov s (hexToBytes hex))
    | "vec", [esz, al, hex] =>
      let d := hexToBytes hex
      pr "F" (vectorIov s d (if esz.toNat! = 0 then 0 else d.length / esz.toNat!) al.toNat!)
    | "ovec", [cnt] => pr "F" (offsetVectorIov s (List.replicate cnt.toNat! r0))
    | "struct", [al, hex] => pr "F" (structIov s (hexToBytes hex) al.toNat!)
    | "vt", [hex] => pr (if s.nestId = 0 ∧ s.clustering then "B" else "F") (vtableIov s (hexToBytes hex))
    | _, _ => "bad-op"
  | _ => "bad-op"

def allocOp (args : List String) : String :=
  match args with
  | [hint, len0, reqs] =>
    let (_, outs) := (reqs.splitOn ",").foldl (fun (acc : Nat × List String) r =>
      let l := Flatcc.Alloc.defaultAlloc acc.1 r.toNat! hint.toNat!
      (l, acc.2 ++ [toString l])) (len0.toNat!, [])
    ",".intercalate outs
  | _ => "bad-op"

/-- sgraph <structs ';' separated; members ',' separated: s = scalar, number = struct index> -/
def sgraphOp (args : List String) : String :=
  open Flatcc.StructGraph in
  match args with
  | [gs] =>
    let g : Graph := (gs.splitOn ";").map (fun ms => (ms.splitOn ",").filterMap (fun m =>
      if m == "s" then some none else if m == "" then none else some (some m.toNat!)))
    let st := analyzeAll g
    match st.diags with
    | [] => s!"ok order={",".intercalate (st.order.map toString)}"
    | d :: _ => s!"fail first={match d with | .circular => "circular" | .deep => "deep" | .empty => "empty"} diags={st.diags.length}"
  | _ => "bad-op"

/-- sortable <types in declaration order ';' separated: `d` or `-` (has a non-deprecated sorted member), ':', refs ',' separated> -/
def sortableOp (args : List String) : String :=
  open Flatcc.Sortable in
  match args with
  | [gs] =>
    let ts : List Ty := (gs.splitOn ";").map (fun s =>
      match s.splitOn ":" with
      | [d, rs] => { direct := d == "d", refs := (rs.splitOn ",").filterMap (fun r => if r == "" then none else some r.toNat!) }
      | _ => { direct := false, refs := [] })
    match markSortable ts with
    | some m => "ok " ++ String.ofList (m.map (fun b => if b then '1' else '0'))
    | none => "fuel"
  | _ => "bad-op"

/-- b64 enc|dec|decl|size|parse|chunks|rooms: see harness/h_b64.c (pbase64.h, FlatccModel/Base64.lean) -/
def b64Op (args : List String) : String :=
  open Flatcc.Base64 in
  match args with
  | ["enc", mode, hex] =>
    let m := natArg mode
    let src := hexToBytes hex
    s!"{encodeRet m} {bytesToHex (encode src m)} {if encodeRet m == 0 then src.length else 0}"
  | ["dec", mode, hex] =>
    let r := decode (hexToBytes hex) (natArg mode)
    s!"{r.ret} {bytesToHex r.decoded} {r.srcConsumed}"
  | ["decl", mode, lim, hex] =>
    let r := decodeLim (natArg lim) (hexToBytes hex) (natArg mode)
    s!"{r.ret} {bytesToHex r.decoded} {r.srcConsumed}"
  | ["size", len, mode] => s!"{encodedSize (natArg len) (natArg mode)} {decodedSize (natArg len)}"
  | ["parse", urlsafe, hex] =>
    (match parseBase64 (hexToBytes hex) (natArg urlsafe != 0) with
     | some l => s!"ok {bytesToHex l}"
     | none => "fail")
  | ["chunks", mode, chunk, hex] => bytesToHex (printChunks (natArg chunk) (hexToBytes hex) (natArg mode))
  | ["print", mode, r0, sched, hex] =>
    -- see harness/h_b64print.c: r0 = room after the opening quote, sched = room after each flush, then 256
    let m := natArg mode
    let src := hexToBytes hex
    let sch := (if sched == "-" then [] else (sched.splitOn ",").map natArg) ++ List.replicate 64 256
    let first := encodedSize src.length m ≥ natArg r0          -- `if (ctx->p + len >= ctx->pflush) flush`
    let pieces := printRoomsPieces (if first then sch else [natArg r0]) src m
    let lens := pieces.map List.length
    let lens := if first then 1 :: (lens.dropLast ++ [lens.getLastD 0 + 1]) else [lens.getLastD 0 + 2]
    s!"{bytesToHex (34 :: pieces.flatten ++ [34])} {",".intercalate (lens.map toString)}"
  | ["rooms", mode, rooms, hex] =>
    bytesToHex (printRooms ((rooms.splitOn ",").map natArg) (hexToBytes hex) (natArg mode))
  | _ => "bad-op"

/-- jscan <fn> <flags> <startpos> <hex>: see harness/h_jscan.c. flags: the parser flags, +256 = `ctx->unquoted` initially set,
+512 = model the build with FLATCC_JSON_PARSE_WIDE_SPACE=1.
answer: `<pos|err:class> <error_loc|-> p<returned pos> m<more> u<unquoted> l<line> c<pos field>` -/
def jscanErrName (e : Nat) : String :=
  match e with
  | 2 => "deep_nesting" | 4 => "expected_colon" | 5 => "unexpected_character" | 6 => "invalid_numeric"
  | 9 => "unbalanced_array" | 10 => "unbalanced_object" | 13 => "unknown_symbol" | 16 => "expected_string"
  | 17 => "invalid_character" | 18 => "invalid_escape" | 20 => "unterminated_string" | 21 => "expected_object"
  | 22 => "expected_array" | n => s!"e{n}"

def jscanOp (args : List String) : String :=
  open Flatcc.JsonScan in
  match args with
  | [fn, flagsS, startS, hex] =>
    let inp := (hexToBytes hex).toArray
    let fl := natArg flagsS
    let i := natArg startS
    let c : Ctx := { flags := fl % 256, unquoted := fl / 256 % 2 == 1, wide := fl / 512 % 2 == 1 }
    let two (r : M (Nat × Ctx)) : M (Nat × Ctx × Bool) := r >>= fun x => .ok (x.1, x.2, false)
    let r : Option (M (Nat × Ctx × Bool)) :=
      match fn with
      | "space" => some (two (space inp i c))
      | "spaceext" => some (two (spaceExt inp i c))
      | "number" => some (two (number inp i c))
      | "skipconst" => some (two (skipConstant inp i c))
      | "unmatched" => some (two (unmatchedSymbol inp i c))
      | "generic" => some (two (generic inp i c))
      | "symstart" => some (two (symbolStart inp i c))
      | "symend" => some (two (symbolEnd inp i c))
      | "conststart" => some (two (constantStart inp i c))
      | "strstart" => some (two (stringStart inp i c))
      | "strend" => some (two (stringEnd inp i c))
      | "strpart" => some (two (stringPart inp i c))
      | "stresc" => some (two (stringEscape inp i c))
      | "objstart" => some (objectStart inp i c)
      | "objend" => some (objectEnd inp i c)
      | "arrstart" => some (arrayStart inp i c)
      | "arrend" => some (arrayEnd inp i c)
      | _ => none
    match r with
    | none => "bad-op"
    | some (.error .oob) => "MODEL-OOB"
    | some (.error .fuel) => "MODEL-FUEL"
    | some (.ok (p, c', more)) =>
      let head := if c'.error != 0 then s!"err:{jscanErrName c'.error} {c'.errorLoc}" else s!"{p} -"
      s!"{head} p{p} m{if more then 1 else 0} u{if c'.unquoted then 1 else 0} l{c'.line} c{c'.pos}"
  | _ => "bad-op"

/-- chararr <N> <flags> <hex-text> / chararrp <hex-array>: see harness/h_chararr.c (FlatccModel/CharArray.lean).
A call that returns without recording an error prints as `ok`; bytes it did not store keep the harness prefill 0xEE. -/
def chararrOp (op : String) (args : List String) : String :=
  open Flatcc.CharArray in
  match op, args with
  | "chararr", [n, fl, hex] =>
    let N := natArg n
    let f : Flags := ⟨natArg fl % 2 == 1, natArg fl / 2 % 2 == 1⟩
    let text := hexToBytes hex
    (match charArrayG N f text with
     | .ok (w, rest) => s!"ok {bytesToHex w} {text.length - rest.length}"
     | .error .overflow => "err overflow"
     | .error .underflow => "err underflow"
     | .error (.silentEnd w) => s!"ok {bytesToHex (w ++ List.replicate (N - w.length) 0xEE)} {text.length}"
     | .error .writeOutside => "err write-outside"
     | .error _ => "err other")
  | "chararrp", [hex] => bytesToHex (printCharArray (hexToBytes hex))
  | _, _ => "bad-op"


def step (line : String) : String :=
  match line.trimAscii.toString.splitOn " " with
  | "num" :: args => numOp args
  | "build" :: args => buildOp args
  | "b64" :: args => b64Op args
  | "chararr" :: args => chararrOp "chararr" args
  | "chararrp" :: args => chararrOp "chararrp" args
  | "jscan" :: args => jscanOp args
  | "alloc" :: args => allocOp args
  | "vtcache" :: args => vtcacheOp args
  | "clone" :: args => cloneOp args
  | "iov" :: args => iovOp args
  | "sgraph" :: args => sgraphOp args
  | "sortable" :: args => sortableOp args
  | "refmap" :: args => refmapOp args
  | "ident" :: args => identOp args
  | "emit" :: args => emitOp args
  | "pr" :: args => prOp args
  | "lit" :: args => schemaNumOp "lit" args
  | "layout" :: args => layoutOp "layout" args
  | "trie" :: args => trieOp args
  | "ids" :: args => layoutOp "ids" args
  | "enum" :: args => schemaNumOp "enum" args
  | "falign" :: args => schemaNumOp "falign" args
  | "sort" :: args => sortOp ("sort" :: args)
  | "find" :: args => sortOp ("find" :: args)
  | "findn" :: args => sortOp ("findn" :: args)
  | "scan" :: args => sortOp ("scan" :: args)
  | "scann" :: args => sortOp ("scann" :: args)
  | "rscan" :: args => sortOp ("rscan" :: args)
  | "rscann" :: args => sortOp ("rscann" :: args)
  | "scanall" :: args => sortOp ("scanall" :: args)
  | "rscanall" :: args => sortOp ("rscanall" :: args)
  | _ => "bad-op"

end Drv

partial def loop (h : IO.FS.Stream) (out : IO.FS.Stream) (st : Drv.DrvState) : IO Unit := do
  let line ← h.getLine
  if line.isEmpty then return ()
  let (st', r) := Drv.stepS st line
  out.putStrLn (if r.isEmpty then Drv.step line else r)
  loop h out st'

def main : IO Unit := do
  let out ← IO.getStdout
  loop (← IO.getStdin) out {}
  out.flush
